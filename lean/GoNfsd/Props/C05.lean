/-
C05 — freed space is fully reclaimed, in memory and on disk.

Proof part, on top of the checker soundness of C04: for an image taken at a quiescent point
(no RPC in flight, background freeing finished) that the checker accepts,
  * nothing is half-freed: a free inode owns no block;
  * the set of blocks marked in use is EXACTLY the metadata plus the blocks owned by objects
    reachable from the root, and the set of inodes marked in use is exactly the reserved number
    plus the objects reachable from the root (`marked_eq_reachable`, `imarked_eq_reachable`);
  * the running server's allocators hold exactly the bits of the on-disk bitmaps;
  * hence deleting everything leaves only the metadata and the root's own blocks marked.
For a crash image the first clause is dropped (a half-freed object still owns the blocks it has
not released) but `WF.marked_iff` still says no block is lost: every marked data block has an
owner whose pointer will be followed when the number is reused.
That these hold after EVERY build-then-delete history is decided by running the checker on the
images of sampled histories (PARTIAL).
-/
import GoNfsd.Lemmas.Files
import GoNfsd.Props.C04
import GoNfsd.Lemmas.ShrinkHandoff
import GoNfsd.Lemmas.InodeInv
import GoNfsd.Gen.Skeleton
import GoNfsd.Model.Skeleton

namespace GoNfsd.Props.C05
open GoNfsd.Model.Fsck GoNfsd.Gen.Consts GoNfsd.Gen.Super GoNfsd.Props.C04

structure Reclaimed (img : Image) : Prop where
  nothing_half_freed : ∀ ino ∈ img.inodes, ino.kind = 0 → owned img ino = []

/-- the in-memory allocators hold exactly the bits of the on-disk bitmaps -/
structure AllocCoherent (img : Image) : Prop where
  alloc_blocks : ∀ a, img.abruns = some a → ∀ b, inRuns a b = marked img b
  alloc_inodes : ∀ a, img.airuns = some a → ∀ i, inRuns a i = imarked img i

theorem quiescent_sound (img : Image) (h : fsckOk img = true) (hq : img.quiescent = true) : Reclaimed img := by
  simp only [fsckOk, chkQuiescent, hq, Bool.and_eq_true, Bool.not_true, Bool.false_or, List.all_eq_true, Bool.or_eq_true,
    bne_iff_ne, ne_eq, List.isEmpty_iff] at h
  exact ⟨fun ino hm hk => (h.1.2 ino hm).resolve_left (not_not_intro hk)⟩

/-- Allocator coherence holds of EVERY accepted image taken from a running server — at quiescent
    points and right after recovery from a crash image alike. -/
theorem alloc_sound (img : Image) (h : fsckOk img = true) : AllocCoherent img := by
  simp only [fsckOk, chkAlloc, Bool.and_eq_true] at h
  obtain ⟨_, h2, h3⟩ := h
  refine ⟨fun a ha b => ?_, fun a ha i => ?_⟩
  · rw [ha] at h2
    rw [eq_of_beq h2]; rfl
  · rw [ha] at h3
    rw [eq_of_beq h3]; rfl

theorem Reclaimed.in_use {img : Image} (rc : Reclaimed img) {ino : DInode} (hi : ino ∈ img.inodes) {o : Own}
    (ho : o ∈ owned img ino) : ino.kind ≠ 0 := fun hk => by
  rw [rc.nothing_half_freed ino hi hk] at ho
  cases ho

/-- Marked = reachable (blocks): at a quiescent point a block is marked in use exactly if it is
    metadata or is owned by an object that is in use and reachable from the root. -/
theorem marked_eq_reachable (img : Image) (h : fsckOk img = true) (hq : img.quiescent = true) (b : Nat) :
    marked img b = true ↔ (metaBlock img.sz b = true ∨
      ∃ ino ∈ img.inodes, ino.kind ≠ 0 ∧ Reachable img ino.inum ∧ ∃ o ∈ owned img ino, o.blk = b) := by
  have wf := fsck_sound img h
  have rc := quiescent_sound img h hq
  rw [wf.marked_iff b, mem_allOwned]
  exact or_congr_right (exists_congr fun ino => and_congr_right fun hi =>
    ⟨fun ⟨o, ho, hb⟩ => ⟨rc.in_use hi ho, wf.tree ino hi (rc.in_use hi ho), o, ho, hb⟩, fun h => h.2.2⟩)

/-- Marked = reachable (inodes). -/
theorem imarked_eq_reachable (img : Image) (h : fsckOk img = true) (i : Nat) :
    imarked img i = true ↔ (i = 0 ∨ ∃ ino ∈ img.inodes, ino.inum = i ∧ ino.kind ≠ 0 ∧ Reachable img i) := by
  have wf := fsck_sound img h
  rw [wf.imarked_iff i]
  exact or_congr_right (exists_congr fun ino => and_congr_right fun hi => and_congr_right fun he =>
    ⟨fun hk => ⟨hk, he ▸ wf.tree ino hi hk⟩, And.left⟩)

/-- Deleting everything returns the space: if the root is the only object in use, the blocks
    marked in use are the metadata and the root directory's own blocks — nothing else. -/
theorem delete_all_restores (img : Image) (h : fsckOk img = true) (hq : img.quiescent = true)
    (honly : ∀ ino ∈ img.inodes, ino.kind ≠ 0 → ino.inum = ROOTINUM) (b : Nat) :
    marked img b = true ↔ (metaBlock img.sz b = true ∨
      ∃ ino ∈ img.inodes, ino.inum = ROOTINUM ∧ ∃ o ∈ owned img ino, o.blk = b) := by
  rw [(fsck_sound img h).marked_iff b, mem_allOwned]
  exact or_congr_right (exists_congr fun ino => and_congr_right fun hi =>
    ⟨fun ⟨o, ho, hb⟩ => ⟨honly ino hi ((quiescent_sound img h hq).in_use hi ho), o, ho, hb⟩, And.right⟩)

/-- No space is lost by a crash in the middle of freeing: in ANY accepted image (quiescent or
    not) a marked block of the data region has an owner, so it is released when that owner
    finishes shrinking (when its number is next reused or touched). -/
theorem no_block_lost (img : Image) (h : fsckOk img = true) (b : Nat)
    (hb : marked img b = true) (hd : metaBlock img.sz b = false) :
    ∃ ino ∈ img.inodes, ∃ o ∈ owned img ino, o.blk = b := by
  have wf := fsck_sound img h
  rcases (wf.marked_iff b).1 hb with hm | ho
  · rw [hd] at hm; cases hm
  · exact (mem_allOwned img b).1 ho

/-! ### the block map (model M7, tied to the code by the `blockmap` correspondence) -/

open GoNfsd.Model.BlockMap in
/-- Truncation releases an index block exactly when the shrink run VISITS the first index it
    serves.  After `Shrink` has run from `N` blocks down to `T`:
    the indirect root is gone iff `T ≤ 8 < N`, the double-indirect root iff `T ≤ 520 < N`, direct
    pointer `i` iff `T ≤ i < N`; everything else is untouched. -/
theorem truncation_releases_visited (s : S) (blks : List Nat) (T N : Nat) (hl : blks.length = NDIRECT + 2) :
    (∀ i, i < NDIRECT → (shrinkTo s blks T N).2.getD i 0 = if T ≤ i ∧ i < N then 0 else blks.getD i 0) ∧
    ((shrinkTo s blks T N).2.getD INDIRECT 0 = if T ≤ NDIRECT ∧ NDIRECT < N then 0 else blks.getD INDIRECT 0) ∧
    ((shrinkTo s blks T N).2.getD DINDIRECT 0 =
      if T ≤ NDIRECT + NBLKBLK ∧ NDIRECT + NBLKBLK < N then 0 else blks.getD DINDIRECT 0) :=
  ⟨fun i hi => by
      have h := shrinkTo_slot T N s blks (Nat.lt_add_right 2 hi)
      rwa [show slotStart i = i from if_neg (Nat.ne_of_lt (Nat.lt_succ_of_lt hi))] at h,
   shrinkTo_slot T N s blks (k := INDIRECT) (by decide), shrinkTo_slot T N s blks (k := DINDIRECT) (by decide)⟩

open GoNfsd.Model.BlockMap in
/-- Why `WF.blocks_within_size` is needed for reclamation: an index block that lies at or beyond
    the range the inode accounts for (`N ≤` its first index) survives EVERY truncation — even to
    zero — and with it whatever hangs below it.  (This is the shape of the two defects repaired in
    fe9df90 and 6452525: index blocks allocated for a block whose data block could not be had.) -/
theorem index_block_beyond_range_is_never_released (s : S) (blks : List Nat) (T N : Nat)
    (hl : blks.length = NDIRECT + 2) (hN : N ≤ NDIRECT + NBLKBLK) :
    (shrinkTo s blks T N).2.getD DINDIRECT 0 = blks.getD DINDIRECT 0 := by
  rw [shrinkTo_slot T N s blks (k := DINDIRECT) (by decide)]
  exact if_neg (fun h => Nat.lt_irrefl _ (Nat.lt_of_lt_of_le h.2 hN))

open GoNfsd.Model.BlockMap in
/-- A short write (some blocks written, then a block that cannot be mapped) leaves `ShrinkSize`
    above the block that failed, so that the index blocks `bmap` may have allocated for it lie
    inside the range a later truncation or removal visits. -/
theorem short_write_covers_failed_block (s : S) (ino : Ino) (bn n cnt : Nat) :
    let r := writeBlocks s ino bn n cnt
    r.2.2 < cnt + n → 0 < r.2.2 → bn + r.2.2 + 1 ≤ r.2.1.shrink := by
  intro r hlt hpos
  rw [(writeBlocks_fields bn n s ino cnt).2.2.2]
  by_cases h : bn + r.2.2 + 1 > ino.shrink
  · rw [if_pos ⟨hlt, hpos, h⟩]; exact Nat.le_refl _
  · rw [if_neg (fun h' => h h'.2.2)]; exact Nat.le_of_not_gt h

/-! ### truncation on the tree view of M7: what is unmapped is exactly what is freed -/

open GoNfsd.Model.BlockMap in
/-- THE RUN OF `Shrink` FREES EXACTLY WHAT IT UNMAPS.  On a file whose pointer map is injective
    and which maps nothing from block `N` on, shrinking from `N` down to `T` blocks
      * clears exactly the positions (data blocks and index blocks) whose range starts at or
        beyond `T` and leaves every other position its block,
      * passes to `FreeBlock` exactly the blocks those positions pointed to — none twice, none
        that is still mapped, none forgotten —,
      * keeps the map injective and draws nothing from the allocator. -/
theorem truncation_frees_exactly_what_it_unmaps (s : S) (blks : List Nat) (T N : Nat)
    (hl : blks.length = NDIRECT + 2) (hinj : InjB s.st blks) (hN : N ≤ MAXBLKS)
    (hemp : EmptyFrom s.st blks N) :
    InjB (shrinkTo s blks T N).1.st (shrinkTo s blks T N).2 ∧
    (∀ q, q.valid → ptr (shrinkTo s blks T N).1.st (shrinkTo s blks T N).2 q =
      if T ≤ firstBn q then 0 else ptr s.st blks q) ∧
    (∀ b, b ∈ (shrinkTo s blks T N).1.freed ↔
      b ∈ s.freed ∨ (b ≠ 0 ∧ ∃ q, q.valid ∧ T ≤ firstBn q ∧ ptr s.st blks q = b)) ∧
    (shrinkTo s blks T N).1.allocs = s.allocs :=
  (shrinkTo_ok T N s blks hl hinj hN hemp).2

open GoNfsd.Model.BlockMap in
/-- the file blocks below the new size keep their disk blocks; those at or beyond it are holes -/
theorem truncation_keeps_the_blocks_below (s : S) (blks : List Nat) (T N bn : Nat)
    (hl : blks.length = NDIRECT + 2) (hinj : InjB s.st blks) (hN : N ≤ MAXBLKS)
    (hemp : EmptyFrom s.st blks N) (hbn : bn < MAXBLKS) :
    lookup (shrinkTo s blks T N).1.st (shrinkTo s blks T N).2 bn =
      if T ≤ bn then 0 else lookup s.st blks bn := by
  rw [lookup_eq_ptr, lookup_eq_ptr]
  have := (shrinkTo_ok T N s blks hl hinj hN hemp).2.2.1 (posOf bn) (posOf_valid bn (by rw [MAXBLKS_eq] at hbn; exact hbn)).1
  rw [firstBn_posOf] at this
  exact this

open GoNfsd.Model.BlockMap in
/-- WRITE ANYTHING, THEN DELETE: from the empty file, after any sequence of block mappings (any
    allocator that hands out no block twice, running dry at any point) followed by the run of
    `Shrink` down to 0, the file points to nothing and EVERY block it had acquired — data, indirect,
    double-indirect root and middle blocks — has been passed to `FreeBlock`: no block is lost. -/
theorem write_anything_then_delete_frees_everything (allocs bns : List Nat) (hd : DistinctNZ allocs)
    (hb : ∀ bn ∈ bns, bn < NDIRECT + NBLKBLK + NBLKBLK * NBLKBLK) :
    let f := bmapAll { st := emptyStore, allocs := allocs } (List.replicate (NDIRECT + 2) 0) bns
    (∀ q, q.valid → ptr (shrinkTo f.1 f.2 0 MAXBLKS).1.st (shrinkTo f.1 f.2 0 MAXBLKS).2 q = 0) ∧
    (∀ b, b ≠ 0 → (∃ q, q.valid ∧ ptr f.1.st f.2 q = b) → b ∈ (shrinkTo f.1 f.2 0 MAXBLKS).1.freed) ∧
    (∀ b, b ∈ (shrinkTo f.1 f.2 0 MAXBLKS).1.freed → ∃ q, q.valid ∧ ptr f.1.st f.2 q = b) := by
  -- (no `let` for the result of the run: the kernel would evaluate `shrinkTo … MAXBLKS`, a
  -- quarter of a million steps, to put the let-bound value into weak head normal form)
  intro f
  have hW := one_owner_after_any_mapping_sequence allocs bns hd hb
  obtain ⟨hp, hf⟩ := shrinkTo_zero MAXBLKS f.1 f.2 hW.len hW.inj (Nat.le_refl _) (EmptyFrom.top _ _)
  refine ⟨hp, fun b hb0 hq => (hf b).2 (Or.inr ⟨hb0, hq⟩), fun b hbm => ((hf b).1 hbm).elim (fun h => ?_) And.right⟩
  -- nothing is freed by mapping
  rw [bmapAll_freed _ _ bns] at h; cases h

/-! ### the bookkeeping invariant: nothing is mapped beyond what size and ShrinkSize account for -/

open GoNfsd.Model.BlockMap in
/-- NO BLOCK BEYOND THE BOOKKEEPING, EVER.  From the empty file, after ANY sequence of WRITEs
    (complete, short — the allocator may run dry at any block, in the middle of an index-block
    chain — or failing), hole-filling READs, SETATTRs of the size (growing, shrinking, to unaligned
    sizes) and finishings of a pending shrink, with any allocator that hands out no block twice:
      * the pointer tree is well-formed (no block with two owners, the allocator's blocks unused),
      * and NOTHING is mapped from block max(ShrinkSize, ⌈size/4096⌉) on —
    which is exactly the hypothesis under which `truncation_frees_exactly_what_it_unmaps`
    guarantees that a later truncation or removal frees every block.  (This is the invariant
    that the defects fixed in 9627749 and fe9df90 broke; the transliterated model contains both
    repairs, and the `blockmap` correspondence ties it to the code.) -/
theorem nothing_mapped_beyond_the_bookkeeping (allocs : List Nat) (hd : DistinctNZ allocs)
    (ops : List IOp) (hops : ∀ op ∈ ops, op.ok) :
    InoOK (inoRun ({ st := emptyStore, allocs := allocs }, emptyIno) ops).1
      (inoRun ({ st := emptyStore, allocs := allocs }, emptyIno) ops).2 :=
  inoRun_ok _ ops (InoOK_empty allocs hd) hops

open GoNfsd.Model.BlockMap in
/-- … and therefore: after any such history, removing the file (the run of `Shrink` from its
    bookkeeping bound down to 0) leaves the file pointing to nothing and has freed every block it
    owned. -/
theorem any_history_then_delete_frees_everything (allocs : List Nat) (hd : DistinctNZ allocs)
    (ops : List IOp) (hops : ∀ op ∈ ops, op.ok) :
    let f := inoRun ({ st := emptyStore, allocs := allocs }, emptyIno) ops
    let r := shrinkTo f.1 f.2.blks 0 (bound f.2)
    (∀ q, q.valid → ptr r.1.st r.2 q = 0) ∧
    (∀ b, b ≠ 0 → (∃ q, q.valid ∧ ptr f.1.st f.2.blks q = b) → b ∈ r.1.freed) := by
  intro f r
  have hok := nothing_mapped_beyond_the_bookkeeping allocs hd ops hops
  obtain ⟨hp, hf⟩ := shrinkTo_zero (bound f.2) f.1 f.2.blks hok.wf.len hok.wf.inj hok.le hok.empty
  exact ⟨hp, fun b hb0 hq => (hf b).2 (Or.inr ⟨hb0, hq⟩)⟩

open GoNfsd.Model.BlockMap in
/-- Non-vacuity: a history with writes into the direct and indirect range, a hole-filling read,
    an unaligned truncation that frees five blocks, a write cut short by the allocator and a
    regrowth meets the hypotheses and ends with blocks mapped. -/
example :
    let ops : List IOp := [.write 0 3, .write 8 3, .read 1, .resize 5000, .write 9 2, .finish, .resize 50000]
    let f := inoRun ({ st := emptyStore, allocs := [100, 101, 102, 103, 104, 105, 106, 107, 108, 0, 109, 110] }, emptyIno) ops
    (f.2.size, f.2.shrink, f.2.blks, f.1.allocs, f.1.freed) =
      (50000, 13, [100, 101, 0, 0, 0, 0, 0, 0, 107, 0], [109, 110], [102, 103, 104, 105, 106]) := by
  decide +kernel

open GoNfsd.Model.BlockMap in
/-- A REQUEST THAT CANNOT FINISH FREEING SAYS SO, AND LEAVES THE BOOKS RIGHT.  `Resize` inside one
    transaction, with an estimate `fits` that may be wrong in either direction and room for only
    `budget` rounds of `Shrink`: the flag it returns tells the caller to start the background
    shrinker exactly when blocks are left to free, and the file it leaves satisfies the
    bookkeeping invariant (nothing mapped beyond its new ShrinkSize) — so whoever finishes the
    shrink later (`finishShrink_ok`) frees everything.  This is the statement the code violated
    before fix b79792e (the flag was `false` whenever the estimate held). -/
theorem unfinished_shrink_is_reported_and_consistent (s : S) (ino : Ino) (sz : Nat) (fits : Bool)
    (budget : Nat) (h : InoOK s ino) (hsz : roundUp sz ≤ MAXBLKS) :
    ((opResizeB s ino sz fits budget).2.2 = true ↔
      (opResizeB s ino sz fits budget).2.1.shrink > roundUp (opResizeB s ino sz fits budget).2.1.size) ∧
    InoOK (opResizeB s ino sz fits budget).1 (opResizeB s ino sz fits budget).2.1 :=
  ⟨resize_flag_is_exact s ino sz fits budget, opResizeB_ok s ino sz fits budget h hsz⟩

/-! ### the allocator itself (model M2, tied to go-journal's `alloc.Alloc` by the `alloc` correspondence) -/

open GoNfsd.Model.Alloc in
/-- A number handed out was free, is in range, and its bit is the only thing that changes; a
    failed allocation changes no bit.  (Number 0 is reserved: its bit is set at format time.) -/
theorem allocator_hands_out_only_free_numbers (a : Alloc) (h0 : a.bits.getD 0 true = true) (hpos : 0 < a.size) :
    ((a.allocNum).2 ≠ 0 →
      a.bits.getD (a.allocNum).2 true = false ∧ (a.allocNum).2 < a.size ∧
      (a.allocNum).1.bits = a.bits.set (a.allocNum).2 true) ∧
    ((a.allocNum).2 = 0 → (a.allocNum).1.bits = a.bits) :=
  Alloc.allocNum_sound a h0 hpos

open GoNfsd.Model.Alloc in
/-- The free count is exact: an allocation takes exactly one, a failed one none, a free of a
    number in use gives exactly one back. -/
theorem allocator_free_count_is_exact (a : Alloc) (h0 : a.bits.getD 0 true = true) (hpos : 0 < a.size) :
    (a.allocNum).1.numFree + (if (a.allocNum).2 = 0 then 0 else 1) = a.numFree ∧
    ∀ a' n, a.freeNum n = some a' → a.bits.getD n true = true → a'.numFree = a.numFree + 1 :=
  ⟨Alloc.allocNum_numFree a h0 hpos, fun a' n h hb => Alloc.freeNum_numFree a a' n h hb⟩

open GoNfsd.Model.Alloc in
/-- "No space" is reported only when nothing is free — a freed number is never stranded behind
    the roving pointer: the scan visits every position before giving up. -/
theorem allocator_reports_full_only_when_full (a : Alloc) (h0 : a.bits.getD 0 true = true)
    (hpos : 0 < a.size) (hn : a.next < a.size) (hz : (a.allocNum).2 = 0) : a.numFree = 0 :=
  Alloc.allocNum_none_means_full a h0 hpos hz

open GoNfsd.Model.Alloc GoNfsd.Model.BlockMap in
/-- THE ALLOCATOR MEETS THE HYPOTHESIS OF THE BLOCK-MAP THEOREMS: the numbers it hands out in a row
    were all free when the row began and are pairwise distinct — the stream `bmap_ok` and
    `nothing_mapped_beyond_the_bookkeeping` assume. -/
theorem allocator_stream_is_fresh_and_distinct (a : Alloc) (k : Nat) (h0 : a.bits.getD 0 true = true)
    (hpos : 0 < a.size) :
    (∀ n ∈ (a.allocMany k).2, n ≠ 0 ∧ n < a.size ∧ a.bits.getD n true = false) ∧
    DistinctNZ (a.allocMany k).2 := by
  obtain ⟨h1, h2, _⟩ := Alloc.allocMany_fresh k a h0 hpos
  refine ⟨h1, ?_⟩
  unfold DistinctNZ
  exact List.Pairwise.imp (fun hne => Or.inr (Or.inr hne)) h2

/-! ### at the level of shared disk blocks (model M7d `G`: any number of files on one disk) -/

/-- Dropping the content of ONE file among many (SETATTR to 0, the removal of the last link; a
    directory is a file of slots, `Props/C04.directory_blocks_refine_the_slot_list`) gives back
    EVERY block it had: afterwards the file maps nothing, each of its former blocks belongs to
    nobody, holds zeros, and the invariant — one owner per block across all files, unowned blocks
    zero — holds again, so the allocator may hand the blocks to anybody. -/
theorem removal_gives_back_every_block (g : GoNfsd.Model.FileData.G) (a : Nat) (h : GoNfsd.Model.FileData.GInv g) :
    GoNfsd.Model.FileData.GInv (g.resize a 0) ∧
    (∀ i, (g.resize a 0).maps a i = 0) ∧
    ∀ i, g.maps a i ≠ 0 →
      (∀ b j, (g.resize a 0).maps b j ≠ g.maps a i) ∧ ∀ o, (g.resize a 0).data (g.maps a i) o = 0 :=
  ⟨(GoNfsd.Model.FileData.gresize_ok g a 0 h).1, GoNfsd.Model.FileData.gresize_zero_frees_everything g a h⟩

/-! ### who finishes a truncation left to the background (model M15) -/

section handoff
open GoNfsd.Model.ShrinkHandoff

/-- ONCE BACKGROUND FREEING HAS FINISHED NOTHING IS LEFT PENDING: whatever the order in which requests leave
    truncations to the background (of the same inode again and again, while a thread for it is in any phase), threads
    run their transactions, other requests help, and threads exit — when no shrinker thread is left, no inode has
    blocks still to be freed.  (A removed file is unreachable: blocks left pending on it would stay allocated until its
    number is reused.)  Holds because `StartShrinker` starts a thread on every call. -/
theorem quiescent_means_nothing_is_left_to_free (evs : List Ev)
    (hq : (run always {} evs).threads = []) : (run always {} evs).pending = [] := by
  refine List.eq_nil_iff_forall_not_mem.2 fun i hi => ?_
  have ht := run_inv {} evs init_inv i hi
  rw [hq] at ht; cases ht

/-- the stronger statement it follows from: at every moment every pending inode has a thread that will look at it again -/
theorem every_pending_truncation_has_a_thread_that_will_look (evs : List Ev) (i : Nat)
    (hi : i ∈ (run always {} evs).pending) :
    ∃ t ∈ (run always {} evs).threads, t.inum = i ∧ t.looping = true :=
  ⟨_, run_inv {} evs init_inv i hi, rfl, rfl⟩

/-- … and it is FALSE for a `StartShrinker` that starts no second thread for an inode that has one (seeded change
    C05m): the thread has had its last look, the file is removed (pending again), no thread is started, the thread
    exits — quiescent with inode 5 still holding its blocks. -/
theorem deduplicating_the_threads_loses_a_truncation :
    let s := run dedupe {} [.request 5, .round 0 false, .request 5, .exit 0]
    s.threads = [] ∧ s.pending = [5] := by decide

/-- what the code does (tables regenerated from shrinker/*.go and nfs/*.go on every run): `StartShrinker` reaches its
    `go` statement on every path; the thread starts with `DoShrink`, whose loop runs `Shrink` and `Commit` and is left
    early only after a refused commit or a crash; and every `Resize` in package nfs hands its "more to free" result to
    `StartShrinker`. -/
theorem start_shrinker_always_starts_a_thread :
    (∀ f ∈ GoNfsd.Gen.Skeleton.shrinkerSpawn, f.1 = "StartShrinker" → GoNfsd.Model.Skeleton.spawnsOnEveryPath f.2 = true) ∧
    (∀ f ∈ GoNfsd.Gen.Skeleton.shrinkerSpawn, f.1 = "shrinker" → GoNfsd.Model.Skeleton.threadRunsDoShrink f.2 = true) ∧
    (∀ f ∈ GoNfsd.Gen.Skeleton.shrinkerSpawn, f.1 = "DoShrink" → GoNfsd.Model.Skeleton.doShrinkLoops f.2 = true) ∧
    (∀ u ∈ GoNfsd.Gen.Skeleton.resizeUses, u.2 = "starts-shrinker") := by decide +kernel

/-- the tables do contain the three functions and both callers -/
theorem handoff_tables_nonempty :
    (GoNfsd.Gen.Skeleton.shrinkerSpawn.map (·.1)).contains "StartShrinker" = true ∧
    (GoNfsd.Gen.Skeleton.shrinkerSpawn.map (·.1)).contains "shrinker" = true ∧
    (GoNfsd.Gen.Skeleton.shrinkerSpawn.map (·.1)).contains "DoShrink" = true ∧
    2 ≤ GoNfsd.Gen.Skeleton.resizeUses.length := by decide +kernel

/-- the checker rejects the deduplicating `StartShrinker` of C05m as the translator renders it -/
example : GoNfsd.Model.Skeleton.spawnsOnEveryPath
    ["call:DPrintf", "call:Lock", "if", "call:Unlock", "return", "fi", "set", "set", "call:Unlock", "go"] = false := by decide +kernel

/-- non-vacuity: a history that ends quiescent with two truncations of one inode finished -/
example : (run always {} [.request 5, .round 0 true, .round 0 false, .request 5, .exit 0, .round 0 false, .exit 0]).threads = [] := by decide

end handoff

/-! ### deleting everything, on the reference model M6 -/

def RootEmpty (s : GoNfsd.Model.Fs.FS) : Prop := ∀ idx sl, 2 ≤ idx → (s.get GoNfsd.Gen.Consts.ROOTINUM).slots[idx]? = some sl → sl.inum = 0

theorem reach_root_only (s : GoNfsd.Model.Fs.FS) (he : RootEmpty s) : ∀ x, GoNfsd.Model.Fs.Reach s x → x = GoNfsd.Gen.Consts.ROOTINUM := by
  intro x hr
  induction hr with
  | root => rfl
  | step d idx ino _ href ih =>
    subst ih
    obtain ⟨sl, hg, hi, hne, h2⟩ := href
    have := he idx sl h2 hg
    rw [hi] at this; exact absurd this hne

/-- DELETING EVERYTHING FREES EVERY INODE (reference model, histories in which no RENAME moves a directory to another
    directory — the known finding): in every reachable state in which the root directory holds no name, no inode but the
    root's is in use.  (Every object in use is reachable from the root by names, `tree_clauses_partial`; with no name in the
    root there is nothing to reach.) -/
theorem deleting_everything_frees_every_inode_partial (u : Bool) (sz : Nat) (ops : List (GoNfsd.Model.Fs.Op × GoNfsd.Model.Fs.Choice))
    (hn : GoNfsd.Model.Fs.NoDirMoves (GoNfsd.Model.Fs.mkfs u sz) ops) (he : RootEmpty (GoNfsd.Model.Fs.run (GoNfsd.Model.Fs.mkfs u sz) ops).1) (x : Nat) (hx : x ≠ GoNfsd.Gen.Consts.ROOTINUM) :
    ((GoNfsd.Model.Fs.run (GoNfsd.Model.Fs.mkfs u sz) ops).1.get x).kind = 0 := by
  have hw := GoNfsd.Model.Fs.run_WFT _ ops (GoNfsd.Model.Fs.WFT_mkfs u sz) hn
  cases hk : ((GoNfsd.Model.Fs.run (GoNfsd.Model.Fs.mkfs u sz) ops).1.get x).kind with
  | zero => rfl
  | succ n =>
    have := reach_root_only _ he x (hw.tree x (by rw [hk]; exact Nat.succ_ne_zero n))
    exact absurd this hx

/-- non-vacuity: CREATE then REMOVE of a name in the root is a history without directory moves after which the root holds no name -/
example :
    GoNfsd.Model.Fs.NoDirMoves (GoNfsd.Model.Fs.mkfs true 100000)
      [(.create (GoNfsd.Model.Fs.mkFh 1 1) [97] 0, { inum := 2, slot := 2 }), (.remove (GoNfsd.Model.Fs.mkFh 1 1) [97], {})] ∧
    ((GoNfsd.Model.Fs.run (GoNfsd.Model.Fs.mkfs true 100000)
      [(.create (GoNfsd.Model.Fs.mkFh 1 1) [97] 0, { inum := 2, slot := 2 }), (.remove (GoNfsd.Model.Fs.mkFh 1 1) [97], {})]).1.get 1).slots.drop 2
      = [GoNfsd.Model.Fs.freeSlot] := by decide +kernel

/-- A FREED OBJECT HOLDS NOTHING (reference model, every history, any choices): an inode that is not in use has size 0, no
    content and no directory slots — whatever REMOVE, RMDIR or a RENAME over it took away is gone completely, and the next
    object created under that number starts empty. -/
theorem a_freed_object_holds_nothing (u : Bool) (sz : Nat) (ops : List (GoNfsd.Model.Fs.Op × GoNfsd.Model.Fs.Choice)) (i : Nat)
    (hk : ((GoNfsd.Model.Fs.run (GoNfsd.Model.Fs.mkfs u sz) ops).1.get i).kind = 0) :
    ((GoNfsd.Model.Fs.run (GoNfsd.Model.Fs.mkfs u sz) ops).1.get i).size = 0 ∧
    ((GoNfsd.Model.Fs.run (GoNfsd.Model.Fs.mkfs u sz) ops).1.get i).content = [] ∧
    ((GoNfsd.Model.Fs.run (GoNfsd.Model.Fs.mkfs u sz) ops).1.get i).slots = [] :=
  GoNfsd.Model.Fs.freeEmpty_inv.reachable u sz ops i hk

end GoNfsd.Props.C05
