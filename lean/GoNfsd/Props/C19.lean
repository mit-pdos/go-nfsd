/-
C19 — advertised limits are honoured exactly.

The announced values are REGENERATED on every run by calling the real FSINFO / PATHCONF
handlers (Gen/Announce.lean); the constants by linking the real packages (Gen/Consts.lean).
The acceptance conditions are those of the reference model M6, tied to the server by the `seq`
correspondence with boundary-dense name lengths, sizes, offsets and counts.
-/
import GoNfsd.Lemmas.ReadWrite
import GoNfsd.Gen.Announce
import GoNfsd.Lemmas.Dirty
import GoNfsd.Lemmas.InodeInv

namespace GoNfsd.Props.C19
open GoNfsd.Model.Fs GoNfsd.Gen.Consts

/-- What the server announces is what the code enforces: the announced maximum name length is
    the directory-entry name capacity, the announced maximum file size is the enforced one and
    within the block map's reach, names are never truncated, and the announced maximum transfer
    (on the disk the announcement was taken from, 10,000 blocks) is the bound `wtmaxOf`. -/
theorem announced_consistent :
    GoNfsd.Gen.Announce.Name_max = MAXNAMELEN ∧ GoNfsd.Gen.Announce.Maxfilesize = MaxFileSize ∧
    GoNfsd.Gen.Announce.No_trunc = true ∧ GoNfsd.Gen.Announce.Wtmax = wtmaxOf 10000 ∧
    GoNfsd.Gen.Announce.Rtmax = wtmaxOf 10000 ∧
    MAXNAMELEN + 16 = DIRENTSZ ∧ MaxFileSize ≤ (NDIRECT + NBLKBLK + NBLKBLK * NBLKBLK) * BlockSize ∧
    GoNfsd.Gen.Announce.fsinfoStatus = 0 ∧ GoNfsd.Gen.Announce.pathconfStatus = 0 := by
  decide

/-- Names: in a directory, with the name not yet present and a valid choice of inode number and
    slot, CREATE / MKDIR / SYMLINK succeed EXACTLY for names of at most the announced length;
    longer names are refused (never truncated) and leave no trace. -/
theorem name_max_exact (s : FS) (c : Choice) (dfh name : Bytes) (kind : Nat) (t : Array UInt8) (d : Nat)
    (hd : resolve s dfh = some d) (hk : (s.get d).kind = NF3DIR) (hn : lookupIn (s.get d) name = none)
    (hi : ¬ (c.inum < 2 ∨ c.inum ≥ s.ninode ∨ (s.get c.inum).kind ≠ 0)) (hs : slotOk (s.get d).slots c.slot = true)
    (ht : ¬ (kind = NF3LNK ∧ t.size > MaxFileSize)) :
    ((doCreate s c dfh name kind t).2.isOk = true ↔ name.length ≤ GoNfsd.Gen.Announce.Name_max) ∧
    (name.length > GoNfsd.Gen.Announce.Name_max → (doCreate s c dfh name kind t).1 = s) := by
  have hnm : GoNfsd.Gen.Announce.Name_max = MAXNAMELEN := by decide
  rw [hnm]
  unfold doCreate
  simp only [hd, hn, ht, hk, hi, if_false, ne_eq, not_true_eq_false, false_or]
  by_cases hl : name.length > MAXNAMELEN
  · simp [hl, Reply.isOk]
  · have : addName (s.get d) c.slot c.inum name ≠ none := by
      simp [addName, hk, hl, hs]
    simp only [hl, if_false]
    cases ha : addName (s.get d) c.slot c.inum name with
    | none => exact absurd ha this
    | some d' => simp [Reply.isOk]; omega

/-- The same limit governs the new name of a RENAME. -/
theorem rename_name_max (s1 : FS) (c : Choice) (fd fidx td fino : Nat) (tname : Bytes)
    (h : tname.length > GoNfsd.Gen.Announce.Name_max) :
    moveName s1 c fd fidx td fino tname = none := by
  have hnm : GoNfsd.Gen.Announce.Name_max = MAXNAMELEN := by decide
  rw [hnm] at h
  simp [moveName, h]

/-- File size: a WRITE to a regular file that carries its data and respects the transfer limit
    is accepted EXACTLY when it ends at or below the announced maximum file size — for every
    offset and count in the natural numbers, so no wrap-around can sneak past — and a refused
    one leaves no trace. -/
theorem maxfilesize_exact (s : FS) (c : Choice) (fh : Bytes) (off count stable : Nat) (data : Array UInt8)
    (i : Nat) (hr : resolve s fh = some i) (hk : (s.get i).kind = NF3REG)
    (hc : count ≤ s.wtmax) (hd : count ≤ data.size) :
    ((step s (.write fh off count stable data) c).2.isOk = true ↔ off + count ≤ GoNfsd.Gen.Announce.Maxfilesize) ∧
    (off + count > GoNfsd.Gen.Announce.Maxfilesize → (step s (.write fh off count stable data) c).1 = s) := by
  rw [show GoNfsd.Gen.Announce.Maxfilesize = MaxFileSize from rfl, step_write, hr]
  dsimp only
  by_cases hb : off + count ≤ MaxFileSize
  · rw [if_pos ⟨hk, hc, hd, hb⟩]
    exact ⟨⟨fun _ => hb, fun _ => by split <;> rfl⟩, fun h => absurd hb (Nat.not_le.mpr h)⟩
  · rw [if_neg fun h => hb h.2.2.2]
    exact ⟨⟨fun h => (nomatch h), fun h => absurd h hb⟩, fun _ => rfl⟩

/-- ... and SETATTR accepts exactly the sizes up to the announced maximum. -/
theorem setattr_size_exact (s : FS) (c : Choice) (fh : Bytes) (sz : Nat) (i : Nat)
    (hr : resolve s fh = some i) (hk : (s.get i).kind = NF3REG) :
    (step s (.setattr fh (some sz) .dont .dont) c).2.isOk = true ↔ sz ≤ GoNfsd.Gen.Announce.Maxfilesize := by
  have hm : GoNfsd.Gen.Announce.Maxfilesize = MaxFileSize := by decide
  rw [hm]
  unfold step
  simp only [hr, hk]
  by_cases hb : sz > MaxFileSize
  · simp [hb, Reply.isOk]
  · simp [hb, Reply.isOk]; omega

/-- Transfer size: a WRITE above the announced maximum transfer is refused with no effect. -/
theorem wtmax_enforced (s : FS) (c : Choice) (fh : Bytes) (off count stable : Nat) (data : Array UInt8)
    (h : count > s.wtmax) :
    (step s (.write fh off count stable data) c).2.isOk = false ∧
    (step s (.write fh off count stable data) c).1 = s := by
  have : (step s (.write fh off count stable data) c).2.isOk = false := by
    rw [step_write]
    cases resolve s fh with
    | none => rfl
    | some i => dsimp only; rw [if_neg fun hg => Nat.not_le.mpr h hg.2.1]; rfl
  exact ⟨this, step_fail _ _ _ this⟩

/-- Reads: a READ of up to the announced rtmax bytes that lies inside the file is served in
    full, and a larger one is a short read of exactly rtmax bytes (RFC 1813), never an error. -/
theorem rtmax_served (s : FS) (c : Choice) (fh : Bytes) (off count : Nat) (i : Nat)
    (hr : resolve s fh = some i) (hk : (s.get i).kind = NF3REG) (hin : off + count < (s.get i).size) :
    ∃ bytes, (step s (.read fh off count) c).2 = .data (min count s.wtmax) false bytes ∧
      bytes.length = min count s.wtmax := by
  have hmin : min count s.wtmax ≤ count := Nat.min_le_left _ _
  rw [step_read_eq s c fh off count i hr hk (Nat.lt_of_le_of_lt (Nat.le_add_right _ _) hin),
    if_neg (Nat.not_le.mpr (Nat.lt_of_le_of_lt (Nat.add_le_add_left hmin off) hin))]
  exact ⟨_, rfl, by simp [readBytes]⟩

/-- The announced maximum transfer fits the journal on every disk: its data blocks (one more
    when unaligned), four index blocks, the inode block and the block-bitmap blocks never exceed
    the 511-block log.  (The arithmetic half of "wtmax fits the journal"; the other half is
    `write_dirties_at_most_four_index_blocks` below.) -/
theorem wtmax_fits_journal_arith (disksz : Nat) :
    wtmaxOf disksz / BlockSize + 1 + 4 + 1 + min (GoNfsd.Gen.Super.MkFsSuper disksz).NBlockBitmap (LogBlocks / 2)
      ≤ LogBlocks ∧ wtmaxOf disksz % BlockSize = 0 ∧ 0 < wtmaxOf disksz := by
  simp only [wtmaxOf, LogBlocks, BlockSize]
  generalize (GoNfsd.Gen.Super.MkFsSuper disksz).NBlockBitmap = nbb
  have : min nbb (511 / 2) ≤ 255 := by simp; omega
  omega

/-- The other half, on the block-map model M7: a WRITE of the announced maximum spans at most
    `wtmax/4096 + 1 ≤ 513` file blocks, and a WRITE of up to 513 consecutive file blocks writes
    to the contents of at most FOUR index blocks — the indirect root, the double-indirect root and
    two neighbouring middle blocks (whatever it has to allocate on the way, and also when the
    allocator runs dry in the middle). -/
theorem write_dirties_at_most_four_index_blocks (disksz : Nat)
    (s : GoNfsd.Model.BlockMap.S) (ino : GoNfsd.Model.BlockMap.Ino) (bn n : Nat)
    (h : GoNfsd.Model.BlockMap.WFB s ino.blks) (hn : n ≤ wtmaxOf disksz / BlockSize + 1)
    (hle : bn + n ≤ GoNfsd.Model.BlockMap.MAXBLKS) (y x : Nat)
    (hch : (GoNfsd.Model.BlockMap.writeBlocks s ino bn n 0).1.st y x ≠ s.st y x) :
    ∃ P ∈ [GoNfsd.Model.BlockMap.Pos.iroot, GoNfsd.Model.BlockMap.Pos.droot,
           GoNfsd.Model.BlockMap.Pos.dmid ((bn - NDIRECT - NBLKBLK) / NBLKBLK),
           GoNfsd.Model.BlockMap.Pos.dmid ((bn - NDIRECT - NBLKBLK) / NBLKBLK + 1)],
      GoNfsd.Model.BlockMap.ptr (GoNfsd.Model.BlockMap.writeBlocks s ino bn n 0).1.st
        (GoNfsd.Model.BlockMap.writeBlocks s ino bn n 0).2.1.blks P = y := by
  have hw := (wtmax_fits_journal_arith disksz).1
  have hn' : n ≤ NBLKBLK + 1 := by
    simp only [LogBlocks, NBLKBLK] at *; omega
  exact GoNfsd.Model.BlockMap.write_touches_four_index_blocks s ino bn n h hn' hle y x hch

/-- Non-vacuity: on a fresh file system a 112-byte name is accepted and a 113-byte name is not. -/
example :
    (step (mkfs true 100000) (.create (mkFh 1 1) (List.replicate 112 97) 0) { inum := 2, slot := 2 }).2.isOk = true ∧
    (step (mkfs true 100000) (.create (mkFh 1 1) (List.replicate 113 97) 0) { inum := 2, slot := 2 }).2.isOk = false := by
  decide

/-- NO FILE EVER EXCEEDS THE ANNOUNCED MAXIMUM FILE SIZE: in every state reachable from the freshly formatted file system
    — any sequence of all procedures, any allocator and slot choices, failing requests included — every regular file's size is
    at most `MaxFileSize`, the value FSINFO announces (`announced_consistent`).  It is an invariant of every operation
    (`Lemmas/InodeInv`: WRITE and SETATTR by their guards, creation by the size of a new inode, removal and RENAME because
    they change no file's size).  The creating procedures of the model take no initial size; that the server's do not apply
    one beyond the limit either is probed by `harness initattr` (seeded change C19p: CREATE applies it through `Resize`
    without the test SETATTR makes). -/
theorem no_file_ever_exceeds_the_announced_maximum (u : Bool) (sz : Nat) (ops : List (Op × Choice)) (i : Nat)
    (hk : ((run (mkfs u sz) ops).1.get i).kind = NF3REG) :
    ((run (mkfs u sz) ops).1.get i).size ≤ MaxFileSize :=
  sizeOK_inv.reachable u sz ops i hk

/-- non-vacuity: the bound is reached — CREATE, then SETATTR to exactly `MaxFileSize` -/
example :
    ((run (mkfs true 100000) [(.create (mkFh 1 1) [102] 0, { inum := 2, slot := 2 }),
      (.setattr (mkFh 2 1) (some MaxFileSize) .dont .dont, {})]).1.get 2).size = MaxFileSize ∧
    ((run (mkfs true 100000) [(.create (mkFh 1 1) [102] 0, { inum := 2, slot := 2 }),
      (.setattr (mkFh 2 1) (some MaxFileSize) .dont .dont, {})]).1.get 2).kind = NF3REG := by decide

/-- NO DIRECTORY EVER HOLDS A NAME LONGER THAN THE ANNOUNCED name_max: in every state reachable from the freshly formatted
    file system, by any sequence of all procedures with any choices, every slot of every directory carries a name of at most
    `MAXNAMELEN` = 112 bytes — the value PATHCONF announces with no_trunc (`name_max_exact`) and the capacity of a slot, so
    `encodeDirEnt` never truncates ("Caller must ensure de.Name fits").  Every path that writes a name goes through
    `AddName`'s guard: CREATE, MKDIR, SYMLINK and both halves of RENAME.  (Seeded change C19n adds an in-place RENAME path
    around the guard.) -/
theorem no_name_ever_exceeds_name_max (u : Bool) (sz : Nat) (ops : List (Op × Choice)) (i k : Nat) (sl : Slot)
    (h : ((run (mkfs u sz) ops).1.get i).slots[k]? = some sl) : sl.name.length ≤ MAXNAMELEN :=
  namesShort_inv.reachable u sz ops i sl (List.mem_of_getElem? h)

end GoNfsd.Props.C19
