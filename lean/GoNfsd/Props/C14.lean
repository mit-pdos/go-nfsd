/-
C14 — no data races between concurrent RPCs and background threads.

PARTIAL by nature.  What is proved: (1) the lockset discipline implies that conflicting
accesses are ordered by a release→acquire edge (stated over trace timestamps, whose hypotheses
the `locks` driver checks on the recorded lock events of every concurrent run); (2) for the
control skeleton of EVERY function of nfs/, dir/ and shrinker/ — REGENERATED from the source on
every run — no path uses an inode variable after the commit or abort that released its lock
(path-sensitive abstract execution, decided by the kernel).  Outside: the Go memory model
itself, accesses the extractor does not see as inode-variable uses (fields of FsState),
go-journal's internals; (3) the structs with their own mutex (cache.Cache, shrinker.ShrinkerSt)
access the fields that mutex guards only while holding it (`mutex_fields_under_mutex`, same
regenerated-skeleton technique); (4) the fields that sync/atomic alone synchronises (the statistics
counters) are touched through sync/atomic or in function-private copies only
(`atomic_fields_are_only_touched_atomically`, table regenerated with go/types), which rules out
races on them (`atomic_discipline_race_free`).  As search support the thorough tier runs the
concurrent harness under the Go race detector.
-/
import GoNfsd.Gen.Skeleton
import GoNfsd.Model.Skeleton
import GoNfsd.Model.Locks
import GoNfsd.Lemmas.SlotUses

namespace GoNfsd.Props.C14
open GoNfsd.Model.Skeleton

/-- Lockset discipline ⇒ ordering: if two transactions access object `o` only while holding its
    exclusive lock (accesses `a₁`, `a₂` inside the holding intervals), the accesses are separated
    by a release and a later acquire of that lock — a happens-before edge in Go's memory model
    (sync.Mutex / sync.Cond inside lockmap) — so they do not race. -/
theorem lockset_race_free (acq1 rel1 acq2 rel2 a1 a2 : Nat)
    (hexcl : rel1 < acq2 ∨ rel2 < acq1)
    (ha1 : acq1 ≤ a1 ∧ a1 ≤ rel1) (ha2 : acq2 ≤ a2 ∧ a2 ≤ rel2) :
    (a1 ≤ rel1 ∧ rel1 < acq2 ∧ acq2 ≤ a2) ∨ (a2 ≤ rel2 ∧ rel2 < acq1 ∧ acq1 ≤ a1) :=
  hexcl.imp (⟨ha1.2, ·, ha2.1⟩) (⟨ha2.2, ·, ha1.1⟩)

/-- Every function of the transaction code uses inodes only under their locks: on no path of
    its control skeleton is an inode variable used after the commit or abort that released the
    inode it points to (parameters are locked by the caller).  Decided on the table regenerated
    from the current source. -/
theorem handlers_use_under_lock :
    ∀ h ∈ GoNfsd.Gen.Skeleton.handlers, check h.2 = true := by decide +kernel

/-- Every struct of the module that carries its own mutex (`cache.Cache`, `shrinker.ShrinkerSt`)
    touches the fields the mutex guards — maps, lists, and every field some method assigns — only
    while the mutex is held: on no path of any method is a guarded field read or written before
    `mu.Lock()`, after `mu.Unlock()`, or in a method that neither locks nor is called under the
    lock.  Decided on the skeletons regenerated from the current source. -/
theorem mutex_fields_under_mutex :
    ∀ h ∈ GoNfsd.Gen.Skeleton.mutexHandlers, check h.2 = true := by decide +kernel

/-- the table is not empty, and it does contain guarded fields -/
theorem mutex_table_nonempty :
    0 < GoNfsd.Gen.Skeleton.mutexHandlers.length ∧
    0 < (GoNfsd.Gen.Skeleton.mutexGuardedFields.map (·.2.length)).sum := by decide

/-- non-vacuity: a read of a guarded field before the lock is taken is rejected -/
example : check ([], .seq [.acq "mu", .fin, .seq [.branch [.seq [.use "mu", .ret], .seq []], .acq "mu", .use "mu", .fin]]) = false := by
  decide +kernel

/-- The extractor classified every statement it saw (an unknown construct is a translator
    failure, never a silent skip). -/
theorem extractor_classified_all :
    GoNfsd.Gen.Skeleton.statementsClassified = GoNfsd.Gen.Skeleton.statementsSeen ∧
    0 < GoNfsd.Gen.Skeleton.handlers.length := by decide

/-- The abstract execution does flag a use after release (non-vacuity of the checker): the
    shape of the repaired WRITE handler (attributes built after the commit) is rejected, the
    repaired shape accepted. -/
example : check ([], .seq [.acq "ip", .fin, .use "ip", .ret]) = false := by decide +kernel

example : check ([], .seq [.acq "ip", .use "ip", .fin, .ret]) = true := by decide +kernel

/-- path sensitivity: an error path that ends the transaction, sets `done` and leaves the loop
    does not poison the code after `if done { return }`. -/
example : check ([], .seq [.setFlag "done" false,
    .loop (.seq [.acq "d", .branch [.seq [.fin, .setFlag "done" true, .brk], .seq []], .brk]),
    .branch [.seq [.assume "done" true, .ret], .seq [.assume "done" false]], .use "d", .fin]) = true := by decide +kernel

/-! ### memory that sync/atomic alone synchronises (the statistics counters) -/

/-- one access to a memory cell, as the race detector sees it -/
structure Access where
  thread : Nat
  cell   : Nat
  write  : Bool
  atomic : Bool

/-- two accesses to a cell that no lock orders race when they come from different goroutines, one
    of them writes, and they are not both sync/atomic operations -/
def races (a b : Access) : Prop :=
  a.cell = b.cell ∧ a.thread ≠ b.thread ∧ (a.write = true ∨ b.write = true) ∧ ¬ (a.atomic = true ∧ b.atomic = true)

/-- the discipline the table below is checked for: a cell is either private to one goroutine (a
    local variable of the function) or reached through sync/atomic only -/
def AtomicDiscipline (tr : List Access) : Prop :=
  ∀ a ∈ tr, a.atomic = true ∨ ∀ b ∈ tr, b.cell = a.cell → b.thread = a.thread

/-- under that discipline no two accesses of any execution race -/
theorem atomic_discipline_race_free (tr : List Access) (h : AtomicDiscipline tr) :
    ∀ a ∈ tr, ∀ b ∈ tr, ¬ races a b := by
  intro a ha b hb ⟨hc, ht, _, hna⟩
  rcases h a ha with h1 | h1
  · rcases h b hb with h2 | h2
    · exact hna ⟨h1, h2⟩
    · exact ht (h2 a ha hc)
  · exact ht (h1 b hb hc.symm).symm

/-- and without it they do: a plain read of a counter that another goroutine adds to atomically
    (the seeded change C14k: `for i, op := range ops` copies the counters with plain loads) -/
example : races ⟨1, 7, false, false⟩ ⟨2, 7, true, true⟩ := by
  refine ⟨rfl, by decide, Or.inr rfl, ?_⟩
  intro h; exact absurd h.1 (by decide)

/-- what the code does (table regenerated from the whole module on every run, types by go/types):
    every field that some sync/atomic call synchronises is read and written through sync/atomic
    (0) or inside a variable private to the function (1: a local built by a composite literal,
    `make`, `new`, a zero `var`, or the function's own copy of a value parameter); no function
    reads, writes or COPIES (assignment, range value, argument, value receiver, return) such a
    field where another goroutine can reach it (2). -/
theorem atomic_fields_are_only_touched_atomically :
    ∀ u ∈ GoNfsd.Gen.Skeleton.atomicUses, u.2.1 ≤ 1 := by decide +kernel

/-- the table is not empty and does contain atomic accesses -/
theorem atomic_table_nonempty :
    0 < (GoNfsd.Gen.Skeleton.atomicUses.filter (fun u => u.2.1 == 0)).length := by decide

/-! ### state shared by all requests and protected by no lock -/

/-- THE SERVER-WIDE STRUCTS ARE IMMUTABLE ONCE PUBLISHED: `nfs.Nfs`, `fstxn.FsState`, `super.FsSuper`, `simple.Nfs` and
    `kvs.KVS` are reached by every request without any lock (handlers hold the locks of the inodes they touch, and two
    requests on different files share none).  Table regenerated from the whole module on every run (types by go/types):
    every assignment to a field of one of them happens in a function that built the struct itself — its constructor,
    before anybody else can see it — the daemon's option `Unstable`, set by `main` before serving, aside.  No write
    after publication ⇒ no two conflicting accesses ⇒ no race on them, whatever the handlers do concurrently.
    (Seeded change C14m adds a plain flag to `Nfs` that WRITE sets and COMMIT clears.) -/
theorem server_wide_state_is_written_by_its_constructors_only :
    ∀ w ∈ GoNfsd.Gen.Skeleton.fieldWrites, GoNfsd.Model.Skeleton.fieldWriteCheck w = true := by decide +kernel

/-- the table is not empty, contains a constructor's write to `nfs.Nfs`, and the checker rejects a handler's write -/
theorem field_write_table_nonempty :
    ("nfs.MakeNfs", "nfs.Nfs", "verf", "local") ∈ GoNfsd.Gen.Skeleton.fieldWrites := by decide +kernel

example : GoNfsd.Model.Skeleton.fieldWriteCheck ("nfs.Nfs.NFSPROC3_WRITE", "nfs.Nfs", "pendingUnstable", "shared") = false := by decide +kernel

example : GoNfsd.Model.Skeleton.fieldWriteCheck ("inode.Inode.Write", "inode.Inode", "Size", "shared") = true := by decide +kernel

/-! ### cached inodes are reached under their lock -/

/-- EVERY ACCESS TO A CACHED INODE IS ORDERED BY THE INODE'S LOCK: an `*inode.Inode` is reached through its cache
    slot only, and in every function of package `fstxn` (table `slotUses`, REGENERATED from fstxn/*.go on every run:
    the calls of `Lockmap.Acquire` / `Release` and `Icache.LookupSlot`, and the calls among the listed functions, in
    source order) the slot is looked up only while the inode's lock is held — so two requests that touch the same
    cached inode, or the slot's `Obj` field itself, are separated by a release → acquire of that lock
    (`lockset_race_free`).  (Seeded change C14o adds `GetInodeCached`, which hands READDIRPLUS the cached inode of an
    entry it cannot lock in order: `Ls3` then reads size, times and link count while CREATE / WRITE / the shrinker
    write them under the lock.) -/
theorem cached_inodes_are_reached_under_their_lock :
    ∀ f ∈ GoNfsd.Gen.Skeleton.slotUses, GoNfsd.Model.Skeleton.slotCheck f = true :=
  GoNfsd.Model.Skeleton.slotUses_checked

example : GoNfsd.Model.Skeleton.slotCheck ("GetInodeCached", [(0, "LookupSlot")]) = false := by decide +kernel

example : ("LockInode", [(0, "Acquire"), (0, "LookupSlot")]) ∈ GoNfsd.Gen.Skeleton.slotUses :=
  GoNfsd.Model.Skeleton.lockInode_in_slotUses

/-- THE MUTEX ASSUMPTION IS NOT A LOOPHOLE: a method that touches guarded fields and never locks is analysed as "called with
    the mutex held" (`cache.Cache.evict`, called by `LookupSlot` under the lock).  That is sound only if nothing but the
    struct's own methods can reach it: table `mutexAssumed`, regenerated on every run, lists every such method with whether
    it is exported and how many plain functions of its package call it; all are internal (the debugging printer
    `PrintCache`, exported but called by `evict` only, aside).  (Seeded change C14q takes the `Lock` / `Unlock` out of the exported `ShrinkerSt.Crash`, which
    writes the flag that the shrinker threads read under the mutex.) -/
theorem methods_assumed_to_hold_the_mutex_are_internal :
    ∀ m ∈ GoNfsd.Gen.Skeleton.mutexAssumed, GoNfsd.Model.Skeleton.mutexAssumedCheck m = true := by decide +kernel

example : GoNfsd.Model.Skeleton.mutexAssumedCheck ("mu_shrinker_ShrinkerSt_Crash", true, 0) = false := by decide +kernel

example : ("mu_cache_Cache_evict", false, 0) ∈ GoNfsd.Gen.Skeleton.mutexAssumed := by decide +kernel

end GoNfsd.Props.C14
