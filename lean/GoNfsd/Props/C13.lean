/-
C13 — directory enumeration is complete, duplicate-free and terminates.

Property theorems about the paging functions of the reference model (`page`, which models
`dir.ApplyEnts` and `dir.Apply` with their byte accounting; tied to the server by the `seq`
correspondence, which compares every READDIR / READDIRPLUS reply entry by entry, cookie by
cookie, for all budgets and cookies).  All statements hold for BOTH procedures and ALL
budgets because they are proved for `page` with arbitrary limits and increments.
-/
import GoNfsd.Lemmas.DirData
import GoNfsd.Lemmas.Enumerate
import GoNfsd.Lemmas.EntriesStay
import GoNfsd.Lemmas.InodeInv
import GoNfsd.Lemmas.NameCache
import GoNfsd.Gen.Skeleton
import GoNfsd.Lemmas.SlotUses

namespace GoNfsd.Props.C13
open GoNfsd.Model.Fs GoNfsd.Gen.Consts

variable (lim1 lim2 : Nat) (inc1 inc2 : Nat → Nat) (n1 n2 : Nat)

/-- Soundness of one page: every returned entry is a live slot of the directory, located at
    or after the offset the cookie argument designates, returned with its own inode number and
    name and with the cookie that designates the slot after it; cookies strictly increase. -/
theorem page_sound (slots : List Slot) (cookie : Nat) :
    (∀ e ∈ (page slots cookie lim1 lim2 inc1 inc2 n1 n2).2,
        ∃ j, slots[j]? = some e.1 ∧ e.1.inum ≠ 0 ∧ e.2 = (j + 1) * DIRENTSZ ∧ cookie ≤ j * DIRENTSZ ∧
          cookie < e.2) ∧
    (page slots cookie lim1 lim2 inc1 inc2 n1 n2).2.Pairwise (fun x y => x.2 < y.2) := by
  constructor
  · intro e he
    obtain ⟨j, h1, h2, h3, h4⟩ := mem_liveFrom.mp ((mem_page ..).mp he).1
    exact ⟨j, h1, h2, h3, h4, h3 ▸ Nat.lt_of_le_of_lt h4 (Nat.mul_lt_mul_of_pos_right (Nat.lt_succ_self j) (by decide))⟩
  · obtain ⟨k, hk, _, _⟩ := page_prefix slots cookie lim1 lim2 inc1 inc2 n1 n2
    rw [hk]
    exact (liveFrom_sorted slots cookie).sublist (List.take_sublist _ _)

/-- Progress: whatever the budgets (even 0), if a live slot exists at or after the cookie's
    offset the page is not empty — the budget test follows the emission — and (soundness) its
    last cookie exceeds the argument, so the next call starts further on. -/
theorem page_progress (slots : List Slot) (cookie : Nat) (j : Nat) (sl : Slot)
    (h : slots[j]? = some sl) (hl : sl.inum ≠ 0) (hs : cookie ≤ j * DIRENTSZ) :
    (page slots cookie lim1 lim2 inc1 inc2 n1 n2).2 ≠ [] := by
  cases he : (page slots cookie lim1 lim2 inc1 inc2 n1 n2).1 with
  | true =>
    exact List.ne_nil_of_mem ((mem_page _ _ _ _ _ _ _ _ (sl, (j + 1) * DIRENTSZ)).mpr ⟨mem_liveFrom.mpr ⟨j, h, hl, rfl, hs⟩, .inl he⟩)
  | false => exact page_ne_nil _ _ _ _ _ _ _ _ he

/-- End of directory is only reported when every live slot at or after the cookie's offset
    has been returned in this page. -/
theorem page_eof_complete (slots : List Slot) (cookie : Nat)
    (he : (page slots cookie lim1 lim2 inc1 inc2 n1 n2).1 = true) (j : Nat) (sl : Slot)
    (h : slots[j]? = some sl) (hl : sl.inum ≠ 0) (hs : cookie ≤ j * DIRENTSZ) :
    (sl, (j + 1) * DIRENTSZ) ∈ (page slots cookie lim1 lim2 inc1 inc2 n1 n2).2 :=
  (mem_page ..).mpr ⟨mem_liveFrom.mpr ⟨j, h, hl, rfl, hs⟩, .inl he⟩

/-- A page that does not report end of directory has skipped nothing: it holds exactly the
    live slots between the cookie's offset and its own last cookie. -/
theorem page_no_gap (slots : List Slot) (cookie : Nat) (j : Nat) (sl : Slot)
    (h : slots[j]? = some sl) (hl : sl.inum ≠ 0) (hs : cookie ≤ j * DIRENTSZ)
    (hlast : (j + 1) * DIRENTSZ ≤ lastCookie (page slots cookie lim1 lim2 inc1 inc2 n1 n2).2 0) :
    (sl, (j + 1) * DIRENTSZ) ∈ (page slots cookie lim1 lim2 inc1 inc2 n1 n2).2 := by
  refine (mem_page ..).mpr ⟨mem_liveFrom.mpr ⟨j, h, hl, rfl, hs⟩, .inr ?_⟩
  -- an empty page has last cookie 0, below every cookie; otherwise the default does not matter
  by_cases hne : (page slots cookie lim1 lim2 inc1 inc2 n1 n2).2 = []
  · rw [hne] at hlast; exact absurd hlast (by simp [lastCookie, DIRENTSZ])
  · rwa [lastCookie_eq hne] at hlast ⊢

/-- Entries never move: adding a name uses a free slot or the end and removing one clears its
    slot; every other slot keeps its offset and content, so cookies stay meaningful across
    changes of the directory. -/
theorem entries_never_move (slots : List Slot) (i : Nat) (s : Slot) (j : Nat) (hj : j ≠ i)
    (hjl : j < slots.length) :
    (putSlot slots i s)[j]? = slots[j]? ∧ (slots.set i freeSlot)[j]? = slots[j]? := by
  refine ⟨?_, List.getElem?_set_ne (Ne.symm hj)⟩
  fun_cases putSlot slots i s
  · exact List.getElem?_append_left hjl
  · exact List.getElem?_set_ne (Ne.symm hj)

theorem insertion_uses_free_slot_or_end (slots : List Slot) (i : Nat) (h : slotOk slots i = true) :
    i = slots.length ∨ ∃ s, slots[i]? = some s ∧ s.inum = 0 :=
  (slotOk_iff slots i).mp h

/-- Enumeration of a directory that does not change: iterating the page function from cookie 0,
    passing back the cookie of the last entry received, with ANY budgets, ends with
    end-of-directory after at most (number of slots + 1) calls and has then returned every live
    entry exactly once (the result is the list of live slots in slot order, whose cookies are
    strictly increasing — hence no duplicates), each with its own inode number and name. -/
theorem enumeration_exact (slots : List Slot) :
    enumerate (fun c => page slots c lim1 lim2 inc1 inc2 n1 n2) (slots.length + 1) 0
      = (liveFrom slots 0, true) ∧
    (liveFrom slots 0).Pairwise (fun x y => x.2 < y.2) ∧
    (∀ e, e ∈ liveFrom slots 0 ↔
        ∃ j, slots[j]? = some e.1 ∧ e.1.inum ≠ 0 ∧ e.2 = (j + 1) * DIRENTSZ) := by
  refine ⟨enumerate_exact slots lim1 lim2 inc1 inc2 n1 n2 _ 0 (Nat.lt_succ_of_le (liveFrom_length_le slots 0)),
    liveFrom_sorted slots 0, fun e => mem_liveFrom.trans ?_⟩
  exact exists_congr fun j => ⟨fun ⟨h1, h2, h3, _⟩ => ⟨h1, h2, h3⟩, fun ⟨h1, h2, h3⟩ => ⟨h1, h2, h3, Nat.zero_le _⟩⟩

/-- The two procedures are instances of `page`. -/
theorem readdir_is_page (slots : List Slot) (cookie count : Nat) :
    readdirPage slots cookie count
      = page slots cookie count (count + 1) (fun l => 16 + l + 8 + 8) (fun _ => 0) 64 0 := rfl

theorem readdirplus_is_page (slots : List Slot) (cookie dircount maxcount : Nat) :
    readdirplusPage slots cookie dircount maxcount
      = page slots cookie dircount maxcount (fun l => 8 + l) (fun l => entryplus3Baggage + l) 0 64 := rfl

/-- Enumeration of a directory that changes between calls (proved below:
    `enumeration_exact_dynamic_holds`).  `ds k` is the slot list seen by call `k`; entries that stay at their slot in all of
    them are returned exactly once and nothing is returned that is not live in the list of the
    call that returned it. -/
def enumeration_exact_dynamic : Prop :=
  ∀ (ds : Nat → List Slot) (calls : Nat) (cookies : Nat → Nat),
    cookies 0 = 0 →
    (∀ k < calls, cookies (k + 1) = lastCookie (page (ds k) (cookies k) lim1 lim2 inc1 inc2 n1 n2).2 (cookies k)) →
    (∀ k < calls, (page (ds k) (cookies k) lim1 lim2 inc1 inc2 n1 n2).1 = false) →
    (page (ds calls) (cookies calls) lim1 lim2 inc1 inc2 n1 n2).1 = true →
    ∀ (j : Nat) (sl : Slot), sl.inum ≠ 0 → (∀ k ≤ calls, (ds k)[j]? = some sl) →
      ∃ k ≤ calls, (sl, (j + 1) * DIRENTSZ) ∈ (page (ds k) (cookies k) lim1 lim2 inc1 inc2 n1 n2).2 ∧
        ∀ k' ≤ calls, k' ≠ k → (sl, (j + 1) * DIRENTSZ) ∉ (page (ds k') (cookies k') lim1 lim2 inc1 inc2 n1 n2).2

/-- ENUMERATION OF A DIRECTORY THAT CHANGES BETWEEN THE CALLS: whatever happens to the other
    entries (created, removed, renamed — `ds k` is the slot list call `k` sees), with any budgets,
    an entry that stays in its slot during the whole enumeration is returned exactly once. -/
theorem enumeration_exact_dynamic_holds : enumeration_exact_dynamic lim1 lim2 inc1 inc2 n1 n2 := by
  intro ds calls cookies h0 hnext hnoeof heof j sl hl hstable
  have hD : 0 < DIRENTSZ := by decide
  -- every call but the last moves the cookie on, to a slot boundary
  have hstep : ∀ k, k < calls → cookies k < cookies (k + 1) ∧ ∃ m, cookies (k + 1) = m * DIRENTSZ := by
    intro k hk
    have hne := page_ne_nil (ds k) (cookies k) lim1 lim2 inc1 inc2 n1 n2 (hnoeof k hk)
    obtain ⟨i, _, _, h3, _, h5⟩ := (page_sound lim1 lim2 inc1 inc2 n1 n2 (ds k) (cookies k)).1 _ (List.getLast_mem hne)
    rw [hnext k hk, lastCookie_eq hne]
    exact ⟨h5, i + 1, h3⟩
  have hmono : ∀ b, b ≤ calls → ∀ a, a ≤ b → cookies a ≤ cookies b := by
    intro b
    induction b with
    | zero => intro _ a ha; rw [Nat.le_zero.mp ha]; exact Nat.le_refl _
    | succ b ih =>
      intro hb a ha
      rcases Nat.lt_or_ge a (b + 1) with hlt | hge
      · exact Nat.le_trans (ih (Nat.le_of_succ_le hb) a (Nat.le_of_lt_succ hlt)) (Nat.le_of_lt (hstep b hb).1)
      · rw [Nat.le_antisymm ha hge]; exact Nat.le_refl _
  -- call `k` returns the entry exactly if slot `j` lies between its cookie and the next one
  have hmem : ∀ k, k ≤ calls → ((sl, (j + 1) * DIRENTSZ) ∈ (page (ds k) (cookies k) lim1 lim2 inc1 inc2 n1 n2).2 ↔
      cookies k ≤ j * DIRENTSZ ∧ (k < calls → (j + 1) * DIRENTSZ ≤ cookies (k + 1))) := by
    intro k hk
    rw [mem_page, mem_liveFrom]
    refine and_congr ⟨fun ⟨i, _, _, h3, h4⟩ => ?_, fun h => ⟨j, hstable k hk, hl, rfl, h⟩⟩ ?_
    · rwa [Nat.succ.inj (Nat.eq_of_mul_eq_mul_right hD h3)]
    · rcases Nat.lt_or_ge k calls with hlt | hge
      · rw [hnoeof k hlt, ← hnext k hlt]
        exact ⟨fun h _ => h.resolve_left (by decide), fun h => .inr (h hlt)⟩
      · rw [Nat.le_antisymm hk hge, heof]
        exact ⟨fun _ h => absurd h (Nat.lt_irrefl _), fun _ => .inl rfl⟩
  -- the call in whose range the slot falls: the last one, among the first `n`, whose cookie is not beyond the slot
  have hfind : ∀ n, n ≤ calls →
      ∃ k, k ≤ n ∧ cookies k ≤ j * DIRENTSZ ∧ (k < n → (j + 1) * DIRENTSZ ≤ cookies (k + 1)) := by
    intro n
    induction n with
    | zero => intro _; exact ⟨0, Nat.le_refl _, by rw [h0]; exact Nat.zero_le _, fun h => absurd h (Nat.lt_irrefl _)⟩
    | succ n ih =>
      intro hn
      obtain ⟨k, hk, hc, hr⟩ := ih (Nat.le_of_succ_le hn)
      rcases Nat.lt_or_ge k n with hlt | hge
      · exact ⟨k, Nat.le_succ_of_le hk, hc, fun _ => hr hlt⟩
      · obtain rfl : k = n := Nat.le_antisymm hk hge
        rcases Nat.lt_or_ge (cookies (k + 1)) ((j + 1) * DIRENTSZ) with hsmall | hbig
        · obtain ⟨m, hm⟩ := (hstep k hn).2
          rw [hm] at hsmall
          exact ⟨k + 1, Nat.le_refl _, hm ▸ Nat.mul_le_mul_right _ (Nat.le_of_lt_succ (Nat.lt_of_mul_lt_mul_right hsmall)),
            fun h => absurd h (Nat.lt_irrefl _)⟩
        · exact ⟨k, Nat.le_succ k, hc, fun _ => hbig⟩
  obtain ⟨k, hk, hkc, hkr⟩ := hfind calls (Nat.le_refl _)
  refine ⟨k, hk, (hmem k hk).mpr ⟨hkc, hkr⟩, fun k' hk' hne hin => ?_⟩
  obtain ⟨p1, p2⟩ := (hmem k' hk').mp hin
  have hlt : j * DIRENTSZ < (j + 1) * DIRENTSZ := Nat.mul_lt_mul_of_pos_right (Nat.lt_succ_self j) hD
  -- of two such calls the earlier one's range ends at or before the cookie of the later one
  have hexcl : ∀ a b, a < b → b ≤ calls → (j + 1) * DIRENTSZ ≤ cookies (a + 1) → cookies b ≤ j * DIRENTSZ → False :=
    fun a b hab hb h1 h2 => Nat.lt_irrefl _ (Nat.lt_of_le_of_lt (Nat.le_trans (Nat.le_trans h1 (hmono b hb (a + 1) hab)) h2) hlt)
  rcases Nat.lt_or_ge k' k with h | h
  · exact hexcl k' k h hk (p2 (Nat.lt_of_lt_of_le h hk)) hkc
  · have h' : k < k' := Nat.lt_of_le_of_ne h (Ne.symm hne)
    exact hexcl k k' h' hk' (hkr (Nat.lt_of_lt_of_le h' hk')) p1

/-- Non-vacuity and the shape of the repaired defect: with a budget that admits one entry per
    call, a directory with `.`, `..`, a free slot and two files is listed in four calls. -/
example :
    let slots : List Slot := [⟨7, [46]⟩, ⟨1, [46, 46]⟩, ⟨0, []⟩, ⟨9, [97]⟩, ⟨10, [98]⟩]
    (enumerate (fun c => readdirPage slots c 97) 6 0).2 = true ∧
    (enumerate (fun c => readdirPage slots c 97) 6 0).1.map (·.2) = [128, 256, 512, 640] := by
  decide

/-! ### down to the directory's blocks (model M7e on M7d) -/

open GoNfsd.Model.FileData in
/-- Enumerating a directory AS IT LIES ON DISK — the slots decoded from the bytes of its blocks after
    any history of entry writes and removals — returns every live entry exactly once, with any
    budgets: `enumeration_exact` of the slot list the reference model has, which is what the blocks
    decode to (`Props/C04.directory_blocks_refine_the_slot_list`). -/
theorem enumeration_exact_on_directory_blocks (ops : List DirOp) (ha : DirAllowed F.empty ops) :
    enumerate (fun c => page (slotsOf (ops.foldl F.dirApply F.empty)) c lim1 lim2 inc1 inc2 n1 n2)
        ((ops.foldl slotApply []).length + 1) 0
      = (liveFrom (ops.foldl slotApply []) 0, true) := by
  obtain ⟨_, h2, _⟩ := dir_history_refines ops F.empty empty_inv ⟨0, by simp [F.empty]⟩ ha
  have h0 : slotsOf F.empty = [] := by simp [slotsOf, F.empty]
  rw [h0] at h2
  rw [h2]
  exact (enumeration_exact lim1 lim2 inc1 inc2 n1 n2 (ops.foldl slotApply [])).1

/-! ### the directory a listing reads is the one its lock protects -/

/-- A listing (and the update it is ordered with) works on the cached directory object — size,
    name cache — that `LockInode` fetches from the inode cache.  That object is THE directory only
    if it is fetched while the directory's lock is held: a slot fetched before the lock is granted
    may have been evicted by the time the request runs, and the request then lists (and appends to)
    an orphaned copy — a name twice, or a name missing.  The call order of `Acquire` / `LookupSlot` /
    `Release` in package fstxn is regenerated on every run (`Gen.Skeleton.slotUses`; the model of
    locks and slots together is M8d, `Props/C03`). -/
theorem the_directory_listed_is_the_locked_one :
    ∀ f ∈ GoNfsd.Gen.Skeleton.slotUses, GoNfsd.Model.Skeleton.slotCheck f = true :=
  GoNfsd.Model.Skeleton.slotUses_checked

example : GoNfsd.Model.Skeleton.slotCheck ("LockInode", [(0, "LookupSlot"), (0, "Acquire")]) = false := by decide

/-! ### entries never move -/

/-- WHY "AN ENTRY THAT STAYS IN ITS SLOT" IS THE RIGHT HYPOTHESIS of `enumeration_exact_dynamic_holds`: cookies are slot
    offsets, and in the reference file system no operation ever MOVES an entry.  For every state, every operation with any
    allocator and slot choices, every live directory and every live slot of it: after the step the slot holds the same entry,
    or is free (the entry was removed), or went with its removed directory — or, in a RENAME only, holds the name that RENAME
    introduced, the old entry having been removed by it.  So an entry that is in the directory before and after a step is in
    the same slot, and whatever happens between two READDIR calls, an entry present throughout keeps its cookie.  (Seeded
    change C13p compacts directories: `RemNameDir` moves the last entry into the freed slot.) -/
theorem no_operation_moves_an_entry (s : GoNfsd.Model.Fs.FS) (op : GoNfsd.Model.Fs.Op) (c : GoNfsd.Model.Fs.Choice) (i k : Nat)
    (a : Slot) (h : (s.get i).slots[k]? = some a) (ha : a.inum ≠ 0) (hl : (s.get i).kind ≠ 0) :
    GoNfsd.Model.Fs.Stays a ((GoNfsd.Model.Fs.step s op c).1.get i) k ∨
      ∃ ffh fname tfh tname b, op = .rename ffh fname tfh tname ∧
        ((GoNfsd.Model.Fs.step s op c).1.get i).slots[k]? = some b ∧ b.name = tname :=
  GoNfsd.Model.Fs.step_entries_stay s op c i k a h ha hl

/-- non-vacuity and the refill case: RENAME b → c in a directory [., .., a, b] with the freed slot of b chosen for c -/
example :
    let s0 := (GoNfsd.Model.Fs.run (GoNfsd.Model.Fs.mkfs true 100000)
      [(.create (GoNfsd.Model.Fs.mkFh 1 1) [97] 0, { inum := 2, slot := 2 }),
       (.create (GoNfsd.Model.Fs.mkFh 1 1) [98] 0, { inum := 3, slot := 3 })]).1
    let s1 := (GoNfsd.Model.Fs.step s0 (.rename (GoNfsd.Model.Fs.mkFh 1 1) [98] (GoNfsd.Model.Fs.mkFh 1 1) [99]) { slot := 3 }).1
    (s0.get 1).slots[2]? = some { inum := 2, name := [97] } ∧ (s1.get 1).slots[2]? = some { inum := 2, name := [97] } ∧
    (s0.get 1).slots[3]? = some { inum := 3, name := [98] } ∧ (s1.get 1).slots[3]? = some { inum := 3, name := [99] } := by decide

/-- THE LOOP BOUND OF EVERY ENUMERATION IS THE DIRECTORY: in every reachable state a directory's size is its number of slots
    times the slot size (`off < dip.Size` visits every slot and no byte beyond), for any history and any choices. -/
theorem directory_size_is_its_slots (u : Bool) (sz : Nat) (ops : List (GoNfsd.Model.Fs.Op × GoNfsd.Model.Fs.Choice)) (i : Nat)
    (hk : ((GoNfsd.Model.Fs.run (GoNfsd.Model.Fs.mkfs u sz) ops).1.get i).kind = GoNfsd.Gen.Consts.NF3DIR) :
    ((GoNfsd.Model.Fs.run (GoNfsd.Model.Fs.mkfs u sz) ops).1.get i).size =
      ((GoNfsd.Model.Fs.run (GoNfsd.Model.Fs.mkfs u sz) ops).1.get i).slots.length * GoNfsd.Gen.Consts.DIRENTSZ :=
  GoNfsd.Model.Fs.dirSizeOK_inv.reachable u sz ops i hk

/-- A COOKIE ONCE RETURNED STAYS INSIDE THE DIRECTORY: no operation takes slots away from a live directory (it may be
    removed as a whole, which makes its handle stale) — so a cookie a client holds never points beyond the end. -/
theorem a_live_directory_never_loses_slots (s : GoNfsd.Model.Fs.FS) (op : GoNfsd.Model.Fs.Op) (c : GoNfsd.Model.Fs.Choice)
    (i : Nat) (hl : (s.get i).kind ≠ 0) :
    ((GoNfsd.Model.Fs.step s op c).1.get i).kind = 0 ∨
      (s.get i).slots.length ≤ ((GoNfsd.Model.Fs.step s op c).1.get i).slots.length :=
  GoNfsd.Model.Fs.step_grows s op c i hl

/-- … and the refill is what the directory code does: after `RemName` has cleared slot `i > 0` the `Lastoff` hint points at it,
    and the next `AddName` on that directory (the second half of a RENAME inside one directory) writes that very slot — in
    every state reachable by model M8e (`Props/C10.name_cache_is_the_directory`).  The new name appears under the cookie of
    the old one; every other entry keeps its own. -/
theorem a_rename_inside_a_directory_refills_the_slot_of_the_old_name (ops : List GoNfsd.Model.NameCache.Op)
    (name name' : GoNfsd.Model.Fs.Bytes) (inum i : Nat)
    (hr : (GoNfsd.Model.NameCache.remName (GoNfsd.Model.NameCache.run {} ops).cur name).2 = some i) (h0 : i ≠ 0)
    (hl : name'.length ≤ GoNfsd.Gen.Consts.MAXNAMELEN) :
    (GoNfsd.Model.NameCache.addName (GoNfsd.Model.NameCache.remName (GoNfsd.Model.NameCache.run {} ops).cur name).1 inum name').2 = some i :=
  GoNfsd.Model.NameCache.add_after_remove_reuses_the_slot _ name name' inum i
    (GoNfsd.Model.NameCache.run_inv {} ops GoNfsd.Model.NameCache.empty_inv).cur hr h0 hl

end GoNfsd.Props.C13
