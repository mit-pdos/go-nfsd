/-
C07 — unstable-write contract.

Proof part:
 * the reply of WRITE in the reference model M6 (tied to the code by the operation-sequence
   correspondence, which compares `committed` of every WRITE reply): the committed level
   reported is never weaker than the one requested, and with the server's unstable option off
   it is FILE_SYNC; unstable data is readable immediately (the read of the range just written
   returns the bytes written, whatever the stability level);
 * the write-ahead log (M9): a crash may lose logged updates only as a SUFFIX of the order in
   which they were appended (= the order in which the transactions were acknowledged: `MemAppend`
   assigns positions under the log's lock) — never a hole in the middle — and never anything at or
   below a durable group commit; a flush (`COMMIT`, or any later stable operation: header 1 with
   an end covering everything appended so far, then a barrier) makes everything before it durable.
Oracle part (crash harness, `-mix data`): the recovered state of every crash image equals the
state after k operations with every stable-acknowledged operation (classified by the REPLY's
committed level) among the k; the write verifier differs between server instances.
-/
import GoNfsd.Lemmas.ReadWrite
import GoNfsd.Props.C01
import GoNfsd.Lemmas.CommitPaths

namespace GoNfsd.Props.C07
open GoNfsd.Model.Wal GoNfsd.Gen.Consts

variable {α : Type}

/-- Loss is a suffix: in every crash state of every reachable protocol state there is a cut `e`
    such that the recovered logical disk contains exactly the updates at positions below `e` —
    so if the update at position `p` is lost (`e ≤ p`), every later one (`p ≤ q`) is lost too, and if
    the one at `q` survives, every earlier one does — and the cut is never below the durable end. -/
theorem loss_is_suffix (base : Nat → α) (U : Nat → Upd α) (s : St) (c : Crash)
    (hr : Reach U s) (hv : c.valid s U) :
    ∃ e, s.eD ≤ e ∧ logical s base U c = spec base U e ∧
      (∀ p q, e ≤ p → p ≤ q → e ≤ q) ∧ (∀ p q, q < e → p ≤ q → p < e) := by
  obtain ⟨e, h1, _, h3⟩ := GoNfsd.Props.C01.wal_crash_safe base U s c hr hv
  exact ⟨e, h1, h3, fun _ _ h1 h2 => Nat.le_trans h1 h2, fun _ _ h1 h2 => Nat.lt_of_le_of_lt h2 h1⟩

/-- COMMIT flushes everything: the logger's group commit — header 1 with end `e`, then a barrier —
    makes `e` the durable end ... -/
theorem commit_flushes_all (s : St) (e : Nat) :
    (step (step s (.hdr1 e)) .barrier).eD = e := by
  simp [step, St.eIssued]

/-- ... and from then on no crash, of this or any later server instance, loses an update below
    `e`: whatever was acknowledged UNSTABLE before the COMMIT (positions below the flushed end)
    survives every crash. -/
theorem committed_data_survives (base : Nat → α) (U : Nat → Upd α) (s s' : St) (e : Nat) (c : Crash)
    (hlater : (step (step s (.hdr1 e)) .barrier).eD ≤ s'.eD) (hr : Reach U s') (hv : c.valid s' U) :
    ∃ e', e ≤ e' ∧ logical s' base U c = spec base U e' :=
  GoNfsd.Props.C01.acknowledged_survives base U _ s' c e (Nat.le_of_eq (commit_flushes_all s e).symm) hlater hr hv

/-- Nothing acknowledged as stable is lost: a stable acknowledgement is given only once the
    durable end covers the transaction (`Flush` waits for `diskEnd`), i.e. `n ≤ s.eD`. -/
theorem stable_never_lost (base : Nat → α) (U : Nat → Upd α) (s : St) (c : Crash) (n : Nat)
    (hack : n ≤ s.eD) (hr : Reach U s) (hv : c.valid s U) :
    ∃ e, n ≤ e ∧ logical s base U c = spec base U e :=
  GoNfsd.Props.C01.acknowledged_survives base U s s c n hack (Nat.le_refl _) hr hv

open GoNfsd.Model.Fs in
/-- The committed level reported is the requested one, or FILE_SYNC when the server's unstable
    option is off: in both cases not weaker than requested. -/
theorem committed_level (s s' : FS) (c : Choice) (fh : Bytes) (off count stable : Nat) (data : Array UInt8)
    (n cm sz : Nat) (h : GoNfsd.Model.Fs.step s (.write fh off count stable data) c = (s', .written n cm sz)) :
    cm = (if s.unstable then stable else FILE_SYNC) := by
  obtain ⟨_, _, _, _, _, _, _, hcm⟩ := step_write_written s c fh off count stable data n cm sz (by rw [h])
  exact hcm

open GoNfsd.Model.Fs in
theorem committed_never_weaker (s s' : FS) (c : Choice) (fh : Bytes) (off count stable : Nat) (data : Array UInt8)
    (n cm sz : Nat) (hs : stable ≤ FILE_SYNC)
    (h : GoNfsd.Model.Fs.step s (.write fh off count stable data) c = (s', .written n cm sz)) : stable ≤ cm := by
  rw [committed_level s s' c fh off count stable data n cm sz h]
  split
  · exact Nat.le_refl _
  · exact hs

open GoNfsd.Model.Fs in
/-- With the unstable option off every successful WRITE reports FILE_SYNC. -/
theorem option_off_file_sync (s s' : FS) (c : Choice) (fh : Bytes) (off count stable : Nat) (data : Array UInt8)
    (n cm sz : Nat) (hu : s.unstable = false)
    (h : GoNfsd.Model.Fs.step s (.write fh off count stable data) c = (s', .written n cm sz)) : cm = FILE_SYNC := by
  rw [committed_level s s' c fh off count stable data n cm sz h, hu]; rfl

open GoNfsd.Model.Fs in
/-- Unstable data is readable immediately: after a successful WRITE of `count > 0` bytes at
    `off` — at ANY stability level, nothing is said about a flush — a READ of the same range from
    the resulting state returns exactly the bytes written. -/
theorem unstable_readable_immediately (s s' : FS) (c c' : Choice) (fh : Bytes) (off count stable : Nat) (data : Array UInt8)
    (n cm sz : Nat) (hpos : 0 < count)
    (h : GoNfsd.Model.Fs.step s (.write fh off count stable data) c = (s', .written n cm sz)) :
    ∃ eof, GoNfsd.Model.Fs.step s' (.read fh off count) c' = (s', .data count eof (data.extract 0 count).toList) := by
  have := read_after_write s c c' fh off count stable data n cm sz hpos (by rw [h])
  rw [h] at this
  exact ⟨false, this⟩

/-! ### COMMIT (model M9c of `obj.Log`, Props/C01): since 0fea8f5 a stable transaction of its own -/

/-- COMMIT makes everything acknowledged before it durable in every state the log can be in —
    also right after a transaction the journal refused, where `Flush()` (what COMMIT used to call)
    makes nothing durable (`Props/C01.flush_forgets_after_a_refusal`). -/
theorem commit_makes_everything_before_it_durable (es es' : List GoNfsd.Model.ObjLog.Ev) :
    let t := GoNfsd.Model.ObjLog.step (GoNfsd.Model.ObjLog.run {} es) (.commit true true)
    t.durable = t.next ∧ t.next ≤ (GoNfsd.Model.ObjLog.run t es').durable :=
  GoNfsd.Props.C01.stable_commit_is_durable_whatever_was_remembered es es'

/-- ONLY A WRITE MAY BE ACKNOWLEDGED BEFORE IT IS DURABLE: NFSv3 gives WRITE alone a stability level; every other successful
    reply promises stable storage.  Tables regenerated from the whole module on every run: the journal's `CommitWait` is
    called by `fstxn.commitWait` alone, every committing function of package fstxn waits except `CommitUnstable`, and the
    only function outside fstxn/commit.go that calls `CommitUnstable` is the WRITE handler.  (Seeded change C07r lets a
    SETATTR that sets only times commit through `CommitUnstable`: its reply, and every unstable write acknowledged before
    it, is lost by a crash although no COMMIT was owed for it.) -/
theorem only_write_commits_without_waiting :
    (∀ c ∈ GoNfsd.Gen.Skeleton.unstableCommitters, c ∈ GoNfsd.Model.Skeleton.unstableCommittersAllowed) ∧
    (∀ f ∈ GoNfsd.Gen.Skeleton.commitPaths, GoNfsd.Model.Skeleton.commitPathCheck f = true) ∧
    GoNfsd.Model.Skeleton.unstableCommittersAllowed = ["nfs.NFSPROC3_WRITE"] :=
  ⟨GoNfsd.Model.Skeleton.commitPaths_checked.2, GoNfsd.Model.Skeleton.commitPaths_checked.1, rfl⟩

end GoNfsd.Props.C07
