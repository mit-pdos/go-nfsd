/-
C11 — no request can crash or wedge the server.

What a theorem can carry here (labelled PARTIAL in MANIFEST and evidence): the reference model
answers every request (it has no partial operation, and the `seq` correspondence — with
hostile arguments: handles of any length and content, names of any length, offsets, counts,
sizes and cookies up to 2^64-1, counts disagreeing with the data — shows the server replies
exactly where the model replies); the wrap-around guards are exact; every block index the
data path computes under the guards is inside its block; the XDR decoder is total and never
produces more than it consumes.  Memory exhaustion and blocking inside the Go runtime or the
RPC library are outside any model; the `fuzz` run searches for them.
-/
import GoNfsd.Model.Guards
import GoNfsd.Lemmas.XdrCanon
import GoNfsd.Lemmas.FsStep
import GoNfsd.Lemmas.ShrinkTree

namespace GoNfsd.Props.C11
open GoNfsd.Model.Guards GoNfsd.Gen.Consts

theorem M64_toNat : M64.toNat = MaxFileSize := by decide

/-- The WRITE size guard, computed with wrap-around 64-bit arithmetic, refuses EXACTLY the
    requests that end beyond the maximum file size — for every offset and count in 0..2^64-1
    (the unrepaired guard `offset+count > max` wrapped for offsets near 2^64). -/
theorem write_guard_exact (off count : UInt64) :
    writeRefusedU64 off count = decide (off.toNat + count.toNat > MaxFileSize) := by
  unfold writeRefusedU64
  by_cases hc : count > M64
  · have : count.toNat > MaxFileSize := by
      rw [← M64_toNat]; exact UInt64.lt_iff_toNat_lt.mp hc
    rw [decide_eq_true hc, Bool.true_or]
    exact (decide_eq_true (Nat.lt_of_lt_of_le this (Nat.le_add_left ..))).symm
  · have hle : count ≤ M64 := UInt64.not_lt.mp hc
    have hle' : count.toNat ≤ MaxFileSize := by
      rw [← M64_toNat]; exact UInt64.le_iff_toNat_le.mp hle
    have hsub : (M64 - count).toNat = MaxFileSize - count.toNat := by
      rw [UInt64.toNat_sub_of_le _ _ hle, M64_toNat]
    have hiff : (off > M64 - count) ↔ (off.toNat + count.toNat > MaxFileSize) := by
      show (M64 - count < off) ↔ _
      rw [UInt64.lt_iff_toNat_lt, hsub]
      exact Nat.sub_lt_iff_lt_add hle'
    simp only [hc, decide_false, Bool.false_or]
    exact decide_eq_decide.mpr hiff

/-- Under the READ precondition (offset below the size, size within the maximum, 32-bit count)
    no sum wraps and the byte count returned never reaches beyond the end of the file. -/
theorem read_count_in_file (off count size : UInt64) (h1 : off < size) (h2 : size.toNat ≤ MaxFileSize)
    (h3 : count.toNat < 2 ^ 32) :
    off.toNat + (readCountU64 off count size).toNat ≤ size.toNat := by
  have hlt : off.toNat < size.toNat := UInt64.lt_iff_toNat_lt.mp h1
  fun_cases readCountU64 off count size
  · rw [UInt64.toNat_sub_of_le _ _ (UInt64.le_of_lt h1), Nat.add_sub_of_le (Nat.le_of_lt hlt)]
    exact Nat.le_refl _
  next hge =>
    have := UInt64.lt_iff_toNat_lt.mp (UInt64.not_le.mp hge)
    rw [UInt64.toNat_add, Nat.mod_eq_of_lt (Nat.lt_of_lt_of_le
      (Nat.add_lt_add (Nat.lt_of_lt_of_le hlt h2) h3) (by decide))] at this
    exact Nat.le_of_lt this

/-- Every block index, and every pointer offset inside an index block, that `bmap` computes for
    a logical block of a file within the maximum file size lies inside its array / its
    4096-byte block — for reads, writes (last block of `offset+count ≤ max`) and shrinks. -/
theorem index_in_range (bn : Nat) (h : bn * BlockSize < MaxFileSize) : (bmapPath bn).inRange := by
  have ptr : ∀ i, i < NBLKBLK → 8 * i + 8 ≤ BlockSize := fun i hi => Nat.mul_le_mul_left 8 hi
  fun_cases bmapPath bn with
  | case1 h1 => exact h1
  | case2 _ h2 => exact ptr _ h2
  | case3 h1 _ =>
    exact ⟨ptr _ (Nat.div_lt_of_lt_mul (Nat.lt_of_le_of_lt (Nat.sub_le ..) (Nat.sub_lt_left_of_lt_add
      (Nat.not_lt.mp h1) (Nat.lt_of_mul_lt_mul_right (a := BlockSize) h)))), ptr _ (Nat.mod_lt _ (by decide))⟩

/-- The XDR decoder terminates on every byte string (it is a total function) and what it
    leaves is never longer than what it was given: decoding cannot loop or amplify. -/
theorem decode_total (t : GoNfsd.Model.Xdr.Ty) (bs : List UInt8) :
    (GoNfsd.Model.Xdr.dec t bs = none) ∨
    (∃ v r, GoNfsd.Model.Xdr.dec t bs = some (v, r) ∧ r.length ≤ bs.length) := by
  cases h : GoNfsd.Model.Xdr.dec t bs with
  | none => exact Or.inl rfl
  | some p => exact Or.inr ⟨p.1, p.2, rfl, GoNfsd.Model.Xdr.dec_len t bs p.1 p.2 h⟩

/-- Every request gets a reply and a successor state from the reference model, whatever its
    arguments (no operation of the model is partial: there is no `head!`, `get!` or default). -/
theorem step_replies (s : GoNfsd.Model.Fs.FS) (op : GoNfsd.Model.Fs.Op) (c : GoNfsd.Model.Fs.Choice) :
    ∃ s' r, GoNfsd.Model.Fs.step s op c = (s', r) := ⟨_, _, rfl⟩

/-- A handle of ANY byte length resolves to at most one inode number below the inode count. -/
theorem resolve_in_table (s : GoNfsd.Model.Fs.FS) (fh : GoNfsd.Model.Fs.Bytes) (i : Nat)
    (h : GoNfsd.Model.Fs.resolve s fh = some i) : i < s.ninode ∧ (s.get i).kind ≠ 0 := by
  have ⟨_, h1, h2, _⟩ := GoNfsd.Model.Fs.resolve_eq_some.mp h
  exact ⟨h1, h2⟩

/-- Non-vacuity: the inputs of the repaired crash. -/
example : writeRefusedU64 (UInt64.ofNat (2 ^ 64 - 10)) 20 = true := by decide

example : (bmapPath 262151).inRange := index_in_range 262151 (by decide)

/-! ### the work of a request is bounded by its arguments (block-map model M7) -/

open GoNfsd.Model.BlockMap in
/-- STEP WORK IS BOUNDED.  Every function of the block-map model is total (structural recursion:
    Lean accepts no other), so no argument makes mapping or truncation loop; and the resources
    they take are bounded by the arguments: one mapping takes at most three blocks from the
    allocator, a WRITE of `n` file blocks at most `3 n`, and neither ever takes a block back out
    of thin air (the allocator stream only shrinks). -/
theorem step_work_bounded (s : S) (ino : Ino) (bn n : Nat) :
    ((bmap s ino.blks bn).1.allocs.length ≤ s.allocs.length ∧
      s.allocs.length ≤ (bmap s ino.blks bn).1.allocs.length + 3) ∧
    ((writeBlocks s ino bn n 0).1.allocs.length ≤ s.allocs.length ∧
      s.allocs.length ≤ (writeBlocks s ino bn n 0).1.allocs.length + 3 * n) :=
  ⟨bmap_allocs_at_most_three s ino.blks bn, writeBlocks_allocs bn n s ino 0⟩

open GoNfsd.Model.BlockMap in
/-- … and a truncation only ever ZEROES cells and takes nothing from the allocator, whatever the
    sizes involved (up to 2^64 in the arguments of SETATTR: the run of `Shrink` is bounded by the
    file's own block count, which the bookkeeping invariant bounds by the block map's reach). -/
theorem truncation_takes_nothing (s : S) (blks : List Nat) (T N : Nat) (hl : blks.length = NDIRECT + 2)
    (hinj : InjB s.st blks) (hN : N ≤ MAXBLKS) (hemp : EmptyFrom s.st blks N) :
    (shrinkTo s blks T N).1.allocs = s.allocs :=
  (shrinkTo_ok T N s blks hl hinj hN hemp).2.2.2.2

end GoNfsd.Props.C11
