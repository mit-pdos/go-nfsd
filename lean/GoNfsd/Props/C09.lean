/-
C09 — a failed operation leaves no trace.

Property theorems about the reference model M6 (`Model/Fs.lean`), which is tied to the NFS
server by the `seq` correspondence: every reply of every operation is compared, so the
implementation is observed to fail exactly when the model fails and to continue exactly as
the model continues.  The theorems say what "continue" means after a failure.
-/
import GoNfsd.Lemmas.FsStep
import GoNfsd.Lemmas.Txn
import GoNfsd.Gen.Skeleton
import GoNfsd.Model.Skeleton
import GoNfsd.Lemmas.BlockTree

namespace GoNfsd.Props.C09
open GoNfsd.Model.Fs

/-- An operation whose reply is not OK changes nothing: the successor state IS the state
    before — the whole tree, every file's content and attributes, every generation number
    (so no inode was consumed), for every state, operation, argument and server choice. -/
theorem error_identity (s : FS) (op : Op) (c : Choice) :
    (step s op c).2.isOk = false → (step s op c).1 = s := step_fail s op c

/-- Consequently all later behaviour is exactly as if the failed operation had not been issued:
    any continuation produces the same replies and the same final state. -/
theorem later_behaviour (s : FS) (op : Op) (c : Choice) (rest : List (Op × Choice))
    (h : (step s op c).2.isOk = false) :
    (run s ((op, c) :: rest)).2.tail = (run s rest).2 ∧
    (run s ((op, c) :: rest)).1 = (run s rest).1 := by
  have hs := step_fail s op c h
  simp only [run]
  rw [hs]
  simp

/-- ... and the same holds for a failure anywhere inside a history. -/
theorem failed_ops_can_be_dropped (s : FS) (pre rest : List (Op × Choice)) (op : Op) (c : Choice)
    (h : (step (run s pre).1 op c).2.isOk = false) :
    (run s (pre ++ (op, c) :: rest)).1 = (run s (pre ++ rest)).1 := by
  induction pre generalizing s with
  | nil =>
    simp only [List.nil_append]
    exact (later_behaviour s op c rest (by simpa [run] using h)).2
  | cons x pre ih =>
    obtain ⟨o, ch⟩ := x
    simp only [List.cons_append, run]
    apply ih
    simpa [run] using h

/-- The unsupported procedures and EXCLUSIVE create are refused before anything is looked at. -/
theorem unsupported_no_effect (s : FS) (c : Choice) (fh dfh name : Bytes) :
    step s (.mknod dfh name) c = (s, .fail .notsupp) ∧
    step s (.link fh dfh name) c = (s, .fail .notsupp) ∧
    step s (.fsstat fh) c = (s, .fail .notsupp) ∧
    step s (.create dfh name GoNfsd.Gen.Consts.EXCLUSIVE) c = (s, .fail .notsupp) := by
  unfold step
  simp

/-- Non-vacuity: a concrete failing request in a concrete state (RENAME of a missing name in a
    freshly formatted file system). -/
example : (step (mkfs true 100000) (.rename (mkFh 1 1) [120] (mkFh 1 1) [121]) {}).2.isOk = false := by
  decide

/-! ### below the reference model: what makes "no trace" true in the server -/

section cache
open GoNfsd.Model.Txn
variable {α : Type}

def TOp.inside : TOp α → Prop
  | .commit => False
  | .abort => False
  | _ => True

theorem inside_keeps_disk (s : St α) (ops : List (TOp α)) (h : ∀ op ∈ ops, TOp.inside op) :
    (GoNfsd.Model.Txn.run s ops).disk = s.disk := by
  induction ops generalizing s with
  | nil => rfl
  | cons op rest ih =>
    refine (ih _ fun o ho => h o (List.mem_cons_of_mem _ ho)).trans ?_
    -- the last two leaves of `step` are commit and abort
    fun_cases GoNfsd.Model.Txn.step s op
    case case6 | case7 => exact False.elim (h _ List.mem_cons_self)
    all_goals rfl

/-- AN ABORTED TRANSACTION LEAVES NO TRACE in the server's state: whatever it loaded, modified
    (in the cached inodes, in place) or lost to eviction meanwhile — after the abort the logical
    disk is what it was, no write is buffered, no lock is held, and every inode still cached
    equals the disk.  (What `forgetInodes` is for: the modified cached copies are dropped.) -/
theorem aborted_transaction_leaves_no_trace (disk : Nat → α) (body : List (TOp α))
    (h : ∀ op ∈ body, TOp.inside op) :
    let s := GoNfsd.Model.Txn.run (fresh disk) (body ++ [.abort])
    s.disk = disk ∧ Quiescent s ∧ ∀ i v, s.cache i = some v → v = disk i := by
  intro s
  have hs : s = step (GoNfsd.Model.Txn.run (fresh disk) body) .abort := run_append _ body [.abort]
  have hq : Quiescent s := by rw [hs]; exact ⟨fun _ => rfl, rfl⟩
  have hd : s.disk = disk := by rw [hs]; exact inside_keeps_disk (fresh disk) body h
  exact ⟨hd, hq, fun i v hv => hd ▸ (run_coherent _ _ (fresh_coherent disk)).quiescent hq i v hv⟩

end cache

open GoNfsd.Model.BlockMap GoNfsd.Gen.Consts in
/-- … and at the block level: a `bmap` that cannot produce its block changes the disk block of NO
    file block (it may have linked index blocks — which is why the request's transaction is
    aborted — but no READ of the file can tell). -/
theorem failed_mapping_moves_no_file_block (s : S) (blks : List Nat) (bn bn' : Nat) (h : WFB s blks)
    (hbn : bn < NDIRECT + NBLKBLK + NBLKBLK * NBLKBLK) (hbn' : bn' < NDIRECT + NBLKBLK + NBLKBLK * NBLKBLK)
    (hfail : (bmap s blks bn).2.2.1 = 0) :
    lookup (bmap s blks bn).1.st (bmap s blks bn).2.1 bn' = lookup s.st blks bn' := by
  rw [lookup_eq_ptr, lookup_eq_ptr]
  obtain ⟨hv, hd⟩ := posOf_valid bn' hbn'
  exact (bmap_ok s blks bn h hbn).miss hfail _ hv hd

/-- what the code does (statement lists of fstxn/commit.go REGENERATED on every run): `Abort` calls `forgetInodes` on
    every path, before it gives the locks back; `forgetInodes` is one loop over ALL inodes of the transaction with no way
    out; and a commit the journal refuses ends in `Abort`.  This is the hypothesis of `aborted_transaction_leaves_no_trace`
    (and of the abort steps of models M8d and M8e): the cached copies an aborted transaction may have changed in place —
    `bmap` stores a freshly allocated index block in the cached inode before anything is dirty — do not survive it.
    (Seeded changes C10m / C12m keep the inodes of a transaction "that wrote nothing".) -/
theorem an_abort_forgets_every_inode_of_the_transaction :
    (∀ f ∈ GoNfsd.Gen.Skeleton.abortPaths, f.1 = "Abort" → GoNfsd.Model.Skeleton.abortForgets f.2 = true) ∧
    (∀ f ∈ GoNfsd.Gen.Skeleton.abortPaths, f.1 = "forgetInodes" → GoNfsd.Model.Skeleton.forgetsAll f.2 = true) ∧
    (∀ f ∈ GoNfsd.Gen.Skeleton.abortPaths, f.1 = "commitWait" → GoNfsd.Model.Skeleton.refusedCommitAborts f.2 = true) ∧
    (GoNfsd.Gen.Skeleton.abortPaths.map (·.1)).contains "Abort" = true ∧
    (GoNfsd.Gen.Skeleton.abortPaths.map (·.1)).contains "forgetInodes" = true ∧
    (GoNfsd.Gen.Skeleton.abortPaths.map (·.1)).contains "commitWait" = true := by decide +kernel

/-- the checkers reject the two renderings of "forget only when something is dirty" -/
example : GoNfsd.Model.Skeleton.abortForgets ["call:verifEvent", "if", "call:forgetInodes", "fi", "call:releaseInodes", "call:PostAbort", "call:verifEvent", "return"] = false := by decide

example : GoNfsd.Model.Skeleton.forgetsAll ["if", "return", "fi", "for", "set:LookupSlot", "if", "set", "fi", "rof"] = false := by decide

end GoNfsd.Props.C09
