/-
C15 — every supported disk size yields a consistent, fully usable file system.

Property theorems only.  The layout definitions (`MkFsSuper`, `FsSuper.*`,
`makeFsPanics`) are REGENERATED from /repo/super/super.go and /repo/nfs/nfs.go on
every run, so these theorems are re-checked against what the code says now.
-/
import GoNfsd.Gen.Super
import GoNfsd.Lemmas.Alloc

namespace GoNfsd.Props.C15
open GoNfsd.Gen.Consts GoNfsd.Gen.Super

/-- A disk size is accepted iff formatting does not panic (negation of the generated
    guard of `nfs.markAlloc`, with the arguments `nfs.makeFs` passes). -/
def accepts (sz : Nat) : Prop := makeFsPanics (MkFsSuper sz) = false

instance (sz : Nat) : Decidable (accepts sz) := by unfold accepts; infer_instance

/-- The block bitmap has a bit for every block of the disk (and at least one more). -/
theorem bitmap_covers (sz : Nat) :
    sz < (MkFsSuper sz).NBlockBitmap * NBITBLOCK :=
  Nat.lt_of_lt_of_eq (Nat.lt_mul_div_succ sz (by decide)) (Nat.mul_comm ..)

/-- Closed form of the accepted sizes: the data region starts inside the first bitmap
    block and does not start beyond the end of the disk. -/
theorem accepts_iff (sz : Nat) :
    accepts sz ↔ ((MkFsSuper sz).DataStart ≤ sz ∧ (MkFsSuper sz).DataStart < NBITBLOCK) := by
  -- of the three refusals of `markAlloc` the middle one never fires: the bitmap covers the disk
  unfold accepts makeFsPanics markAllocPanics
  simp only [Bool.or_eq_false_iff, decide_eq_false_iff_not, Nat.not_le, Nat.not_lt, ge_iff_le,
    show (MkFsSuper sz).MaxBnum < NBITBLOCK * (MkFsSuper sz).NBlockBitmap from Nat.mul_comm .. ▸ bitmap_covers sz, and_true]
  exact And.comm

/-- The five regions (log, block bitmap, inode bitmap, inode table, data) are consecutive:
    each starts where the previous one ends, the first starts at block 0 and the last ends
    at the end of the disk.  Consecutive half-open intervals are disjoint and cover `[0,sz)`. -/
theorem regions_partition (sz : Nat) (h : accepts sz) :
    let s := MkFsSuper sz
    s.BitmapBlockStart = 0 + s.nLog ∧
    s.BitmapInodeStart = s.BitmapBlockStart + s.NBlockBitmap ∧
    s.InodeStart = s.BitmapInodeStart + s.NInodeBitmap ∧
    s.DataStart = s.InodeStart + s.nInodeBlk ∧
    s.DataStart ≤ s.MaxBnum ∧ s.MaxBnum = sz ∧
    0 < s.nLog ∧ 0 < s.NBlockBitmap ∧ 0 < s.NInodeBitmap ∧ 0 < s.nInodeBlk := by
  exact ⟨(Nat.zero_add _).symm, rfl, rfl, rfl, ((accepts_iff sz).mp h).1, rfl, show 0 < LOGSIZE by decide, Nat.succ_pos _,
    show 0 < NINODEBITMAP by decide, show 0 < NINODEBITMAP * NBITBLOCK * INODESZ / BlockSize by decide⟩

/-- The region reserved for the journal is exactly what the write-ahead log uses:
    two header blocks plus `LOGSZ` slots. -/
theorem log_region_is_wal (sz : Nat) :
    (MkFsSuper sz).nLog = WAL_LOGSTART + WAL_LOGSZ ∧ WAL_LOGHDR < WAL_LOGSTART ∧
    WAL_LOGHDR2 < WAL_LOGSTART ∧ WAL_LOGHDR ≠ WAL_LOGHDR2 := by
  simp [MkFsSuper, LOGSIZE, WAL_LOGSTART, WAL_LOGSZ, WAL_LOGHDR, WAL_LOGHDR2]

/-- The inode bitmap has exactly one bit per inode slot of the inode table. -/
theorem inode_bitmap_covers (sz : Nat) :
    (MkFsSuper sz).NInode = (MkFsSuper sz).NInodeBitmap * NBITBLOCK := by
  simp [MkFsSuper, FsSuper.NInode, NBITBLOCK, NINODEBITMAP, INODESZ, BlockSize, INODEBLK]

/-- Every inode number below `NInode` lives inside the inode table, wholly inside one block. -/
theorem inode_slot_in_table (sz inum : Nat) (hi : inum < (MkFsSuper sz).NInode) :
    let s := MkFsSuper sz
    let a := s.Inum2Addr inum
    s.InodeStart ≤ a.1 ∧ a.1 < s.DataStart ∧ a.2 + INODESZ * 8 ≤ NBITBLOCK ∧ a.2 % 8 = 0 := by
  refine ⟨Nat.le_add_right .., Nat.add_lt_add_left (Nat.div_lt_of_lt_mul (Nat.mul_comm .. ▸ hi)) _, ?_, Nat.mul_mod_left ..⟩
  have := Nat.mul_le_mul_right 8 (Nat.mul_le_mul_right INODESZ (Nat.mod_lt inum (by decide : 0 < INODEBLK)))
  rwa [Nat.succ_mul, Nat.add_mul] at this

/-- Two different inode numbers occupy disjoint bit ranges of the disk. -/
theorem inode_slots_disjoint (sz i j : Nat) (hij : i < j) :
    let s := MkFsSuper sz
    let a := s.Inum2Addr i
    let b := s.Inum2Addr j
    a.1 * NBITBLOCK + a.2 + INODESZ * 8 ≤ b.1 * NBITBLOCK + b.2 := by
  simp only [FsSuper.Inum2Addr, NBITBLOCK, INODESZ, INODEBLK]
  omega

/-- No intermediate of the layout arithmetic overflows a Go `uint64` for any disk the
    implementation can address (sizes below 2^50 blocks = 4 EiB), so reading the code over
    `Nat` is exact. -/
theorem layout_no_overflow (sz : Nat) (h : sz < 2 ^ 50) :
    let s := MkFsSuper sz
    s.DataStart < 2 ^ 64 ∧ s.NBlockBitmap * NBITBLOCK < 2 ^ 64 ∧
    (NINODEBITMAP * NBITBLOCK) * INODESZ < 2 ^ 64 ∧ usesSubtraction = false := by
  simp only [MkFsSuper, FsSuper.DataStart, FsSuper.InodeStart, FsSuper.BitmapInodeStart,
    FsSuper.BitmapBlockStart, usesSubtraction,
    NBITBLOCK, LOGSIZE, NINODEBITMAP, INODESZ, BlockSize, Nat.reducePow, Nat.reduceMul,
    Nat.reduceDiv, and_true] at h ⊢
  omega

/-- The hypotheses are satisfiable: the test suite's 10,000-block disk is accepted, and the
    smallest accepted disk is 1539 blocks. -/
example : accepts 10000 := by decide

example : accepts 1539 ∧ ¬ accepts 1538 := by decide

/-- FULLY USABLE, at the allocator: whatever the position of the roving pointer, asking often
    enough hands out EVERY free number — the count of numbers obtained equals the free count, so
    no free block or inode of a freshly formatted (or any other) file system is unreachable for
    the allocator (model M2, tied to the code by the `alloc` correspondence). -/
theorem every_free_number_can_be_allocated (a : GoNfsd.Model.Alloc.Alloc) (k : Nat)
    (h0 : a.bits.getD 0 true = true) (hpos : 0 < a.size) (hn : a.next < a.size) (hk : a.numFree ≤ k) :
    ((a.allocMany k).2).length = a.numFree ∧ ((a.allocMany k).2).Nodup :=
  have ⟨_, nd, _, all⟩ := GoNfsd.Model.Alloc.Alloc.allocMany_fresh k a h0 hpos
  ⟨all hk, nd⟩

/-- non-vacuity: a bitmap with the reserved bit and two holes behind the roving pointer -/
example : ((GoNfsd.Model.Alloc.Alloc.allocMany { next := 4, bits := [true, false, true, false, true, true] } 5).2) = [1, 3] := by
  decide

end GoNfsd.Props.C15
