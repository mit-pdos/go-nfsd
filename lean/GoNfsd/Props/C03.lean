/-
C03 — concurrent RPCs are linearizable.

The proof part: strict two-phase locking over an exclusive lock manager orders conflicting
transactions by their commit points — stated over the timestamps of a trace (acquisition,
commit and release positions), whose hypotheses the `locks` driver CHECKS on the recorded
event trace of every concurrent run.  The deciding tie: every concurrent history produced by
the harness is replayed on the sequential reference model (C02) in the observed commit order —
the witness order the theorem provides, so no search over orders — and every recorded reply
(post-operation attributes and listings included) must match; each operation's linearization
point lies between its invocation and its return by construction.
PARTIAL with respect to schedules: the theorem covers every interleaving of the abstract
system; the implementation is observed on the schedules the harness provokes.
-/
import GoNfsd.Model.OpCache
import GoNfsd.Model.Locks
import GoNfsd.Lemmas.Serial
import GoNfsd.Gen.Skeleton
import GoNfsd.Lemmas.SlotLock
import GoNfsd.Lemmas.SlotUses
import GoNfsd.Lemmas.CommitPaths
import GoNfsd.Lemmas.Reveal

namespace GoNfsd.Props.C03
open GoNfsd.Model.Locks

/-- Two transactions that both lock object `o`: `acqᵢ`/`relᵢ` are the trace positions at which
    transaction i acquires / releases `o`'s lock, `cᵢ` its commit point.  Exclusive locking makes
    the two holding intervals disjoint; two-phase locking puts each commit point inside its
    transaction's holding interval.  Then the transaction that commits first holds — hence
    accesses — `o` entirely before the other one: the conflict order is the commit order. -/
theorem twophase_conflict_order (acq1 rel1 c1 acq2 rel2 c2 : Nat)
    (hexcl : rel1 < acq2 ∨ rel2 < acq1)
    (h1 : acq1 < c1 ∧ c1 < rel1) (h2 : acq2 < c2 ∧ c2 < rel2) (hc : c1 < c2) :
    rel1 < acq2 :=
  hexcl.resolve_right (Nat.lt_asymm (Nat.lt_trans h1.1 (Nat.lt_trans hc h2.2)))

/-- Every access of the earlier-committing transaction to `o` precedes every access of the
    later one (accesses happen only while the lock is held). -/
theorem accesses_ordered (acq1 rel1 c1 acq2 rel2 c2 a1 a2 : Nat)
    (hexcl : rel1 < acq2 ∨ rel2 < acq1)
    (h1 : acq1 < c1 ∧ c1 < rel1) (h2 : acq2 < c2 ∧ c2 < rel2) (hc : c1 < c2)
    (ha1 : acq1 ≤ a1 ∧ a1 ≤ rel1) (ha2 : acq2 ≤ a2 ∧ a2 ≤ rel2) : a1 < a2 :=
  Nat.lt_of_le_of_lt ha1.2 (Nat.lt_of_lt_of_le (twophase_conflict_order acq1 rel1 c1 acq2 rel2 c2 hexcl h1 h2 hc) ha2.1)

/-- The commit order also respects real time: a transaction that returned before another was
    invoked committed first (commit points lie between invocation and return). -/
theorem commit_order_respects_real_time (inv1 c1 ret1 inv2 c2 ret2 : Nat)
    (h1 : inv1 < c1 ∧ c1 < ret1) (h2 : inv2 < c2 ∧ c2 < ret2) (hrt : ret1 < inv2) : c1 < c2 :=
  Nat.lt_trans h1.2 (Nat.lt_trans hrt h2.1)

/-- The trace validator accepts only two-phase transactions: while it has not seen the commit or
    abort point it refuses any release that is not of a lock dropped at once (stale handle). -/
theorem twoPhase_no_early_release (early : List Nat) (n : Nat) (rest : List Ev) (held : List Nat)
    (h : twoPhase early (.rel n :: rest) false held = true) : n ∈ early ∧ n ∈ held := by
  simp only [twoPhase, Bool.and_eq_true, Bool.or_eq_true, List.contains_eq_mem, decide_eq_true_eq,
    Bool.false_eq_true, false_or] at h
  exact ⟨h.1.2, h.1.1⟩

theorem twoPhase_no_late_acquire (early : List Nat) (n : Nat) (rest : List Ev) (held : List Nat) :
    twoPhase early (.acq n :: rest) true held = false := by
  simp [twoPhase]

/-- Non-vacuity: a committed two-lock transaction trace is accepted, one that releases before
    its commit point is not. -/
example : twoPhase [] [.acq 3, .acq 7, .commit, .rel 3, .rel 7] false [] = true := by decide

example : twoPhase [] [.acq 3, .rel 3, .acq 7, .commit, .rel 7] false [] = false := by decide

/-! ### check and act in one transaction -/

open GoNfsd.Model.Locks in
/-- Soundness of the name-event validator: if `insertsChecked` accepts the events of a
    transaction, every insertion of a (directory, name) key is preceded IN THAT TRANSACTION by a
    lookup of the same key (or the key was among those already looked up).  Together with two-phase
    locking — the directory stays locked from the lookup to the commit — "the name did not exist"
    still holds when the name is inserted; a lookup made in an earlier, aborted transaction of the
    same request (lock released in between) does not count. -/
theorem insertsChecked_sound (evs : List NameEv) (looked : List Nat) (h : insertsChecked evs looked = true) :
    ∀ (pre post : List NameEv) (k : Nat), evs = pre ++ NameEv.insert k :: post →
      k ∈ looked ∨ NameEv.lookup k ∈ pre := by
  intro pre post k he
  subst he
  induction pre generalizing looked with
  | nil => exact .inl (List.contains_iff_mem.mp (Bool.and_eq_true_iff.mp h).1)
  | cons e pre ih =>
    cases e with
    | lookup j =>
      rcases ih (j :: looked) h with hm | hm
      · rcases List.mem_cons.mp hm with rfl | hm
        · exact .inr (.head _)
        · exact .inl hm
      · exact .inr (.tail _ hm)
    | insert j => exact (ih looked (Bool.and_eq_true_iff.mp h).2).imp_right (.tail _)

/-! ### why the replay in commit order works: strict two-phase locking serialises -/

section serial
open GoNfsd.Model.Serial

/-- COMMIT-ORDER REPLAY.  Any interleaving of any number of transactions that lock objects, read
    and update them in place under the lock and release everything at commit — each lock granted
    only when free, each access made only under the lock — ends, once everything is committed,
    with every object in exactly the state it has after running the transactions ONE AFTER THE
    OTHER in the order of their commits (each with its complete list of actions), and every
    transaction has read exactly the values it reads in that serial execution.  Hence replaying a
    concurrent history of the server in commit order on the sequential reference model must
    reproduce every reply — which is what the C03 check does with the recorded histories. -/
theorem commit_order_replay (v : Nat → Val) (es : List GoNfsd.Model.Serial.Ev) (ha : AllowedAll (init v) es)
    (hq : Quiescent (GoNfsd.Model.Serial.run (init v) es)) :
    (∀ o, (GoNfsd.Model.Serial.run (init v) es).A o = (serialExec v (commitLog (init v) es)).1 o) ∧
    (∀ t, (GoNfsd.Model.Serial.run (init v) es).reads.filter (fun r => r.1 == t) =
          (serialExec v (commitLog (init v) es)).2.filter (fun r => r.1 == t)) := by
  have hinv := run_inv (init v) es (init_inv v) ha
  obtain ⟨hc, hs⟩ := run_serial_view es (init v)
  refine ⟨?_, ?_⟩
  · intro o
    rw [hinv.free_eq o (hq.1 o), hc]; rfl
  · intro t
    have := hinv.reads_eq t
    rw [hq.2 t] at this
    simp only [runSerial, List.append_nil] at this
    rw [this, hs]
    simp [init]

/-- Non-vacuity: two transactions interleaved on two objects — 1 increments object 0, 2 doubles
    object 1 and commits, 1 then adds 10 to object 1 — are allowed and end quiescent. -/
example :
    let es : List GoNfsd.Model.Serial.Ev := [.acq 1 0, .acq 2 1, .act 1 ⟨0, (· + 1)⟩, .act 2 ⟨1, (· * 2)⟩, .commit 2, .acq 1 1, .act 1 ⟨1, (· + 10)⟩, .commit 1]
    AllowedAll (init fun _ => 5) es ∧ Quiescent (GoNfsd.Model.Serial.run (init fun _ => 5) es) ∧
    (GoNfsd.Model.Serial.run (init fun _ => 5) es).A 1 = 20 :=
  -- evaluation; an arbitrary object or transaction is one of those the run names, or none of them
  ⟨⟨rfl, rfl, rfl, rfl, trivial, rfl, rfl, trivial, trivial⟩,
    ⟨fun | 0 | 1 | _ + 2 => rfl, fun | 0 | 1 | 2 | _ + 3 => rfl⟩, rfl⟩

end serial

/-! ### what a lock protects is fetched under the lock (regenerated from package fstxn) -/

/-- In every function of `fstxn` the inode's cache slot is looked up only while the inode's lock
    is held (`LockInode`: `Acquire` first, `LookupSlot` second; `forgetInodes`: called by `Abort`
    before the locks are given back), so the object a transaction reads and mutates under the lock
    is THE object every other transaction on that inode uses — whatever the cache evicts while a
    request waits.  `Gen.Skeleton.slotUses` is regenerated from fstxn/fstxn.go and fstxn/commit.go
    on every run. -/
theorem slots_are_fetched_under_the_lock :
    ∀ f ∈ GoNfsd.Gen.Skeleton.slotUses, GoNfsd.Model.Skeleton.slotCheck f = true :=
  GoNfsd.Model.Skeleton.slotUses_checked

/-- the rule bites: the order of the seeded change C03i (slot first, lock second) is refused, and
    the table is not empty -/
example : GoNfsd.Model.Skeleton.slotCheck ("LockInode", [(0, "LookupSlot"), (0, "Acquire")]) = false := by decide +kernel

example : GoNfsd.Model.Skeleton.slotCheck ("Abort", [(1, "releaseInodes"), (1, "forgetInodes")]) = false := by decide +kernel

example : ("LockInode", [(0, "Acquire"), (0, "LookupSlot")]) ∈ GoNfsd.Gen.Skeleton.slotUses :=
  GoNfsd.Model.Skeleton.lockInode_in_slotUses

/-! ### why: inode locks and cache slots together (model M8d) -/
section slotlock
open GoNfsd.Model.SlotLock

/-- Under the discipline that `slots_are_fetched_under_the_lock` checks on the code — a slot is looked
    up only by the holder of the inode's lock — in every state reachable by any interleaving of lock
    grants, lookups, evictions (of ANY entry at ANY time), in-place modifications, commits and aborts,
    the slot a lookup returns holds no uncommitted changes of another transaction: a transaction
    never observes what an aborted (or not yet committed) transaction did to the cached inode. -/
theorem no_transaction_sees_anothers_uncommitted_inode (ops : List Op) (s s' : St) (t i : Nat)
    (hd : Disciplined empty ops) (hr : run empty ops = some s) (hl : s.lock i = some t)
    (hs : step s (.lookup t i) = some s') :
    ∃ k, s'.ptr t i = some k ∧ (s'.tainted k = none ∨ s'.tainted k = some t) :=
  lookup_never_returns_foreign_taint s s' t i (run_inv ops empty s empty_inv hr) hl hs

/-- What the discipline excludes, in seven steps (the seeded change C03i: the waiter fetched the
    slot BEFORE it was granted the lock): transaction 1 holds inode 5 and its slot; transaction 2,
    waiting, fetches the same slot; 1 modifies the inode in place; the entry is evicted; 1 aborts
    (which clears the slot the cache has NOW, a fresh one) and releases; 2 is granted the lock and
    works on its pointer — the orphaned slot with the aborted changes of 1. -/
theorem slot_fetched_before_the_lock_sees_aborted_changes :
    ((run empty [.acquire 1 5, .lookup 1 5, .lookup 2 5, .modify 1 5, .evict 5, .abort 1 5, .acquire 2 5]).map
      fun s => (s.lock 5, s.ptr 2 5, s.tainted 0)) = some (some 2, some 0, some 1) := by decide

end slotlock

/-! ### what another transaction reads can no longer be lost (model M14) -/
section reveal
open GoNfsd.Model.Reveal

/-- WHAT A REPLY REVEALS IS DURABLE.  The journal's log has a part on disk and a part in memory;
    commits append (with or without waiting for the disk), the logger writes in the background,
    anybody may flush.  Under the discipline of `fstxn.commitWait` — a transaction gives a lock
    back only when nothing of it is pending, unstable WRITEs aside — in every state reachable by any interleaving of any
    transactions, a transaction that holds the lock of `k` (and has nothing pending itself) reads
    for `k` — unless an unstable WRITE to `k` is pending — exactly the value the server would have after a crash at this very moment. -/
theorem what_another_transaction_reads_is_durable (ops : List Op) (s : St) (t k : Nat)
    (hd : Disciplined empty ops) (hr : run empty ops = some s)
    (hl : s.lock k = some t) (hp : ∀ c ∈ s.pend, c.1 ≠ t)
    (hu : ∀ c ∈ s.pend, c.2.1 = true → ∀ kv ∈ c.2.2, kv.1 ≠ k) :
    s.read k = s.recovered k :=
  read_is_recovered s t k (run_inv ops empty s empty_inv hd hr) hl hp hu

/-- ... and equally the value after a crash that keeps ANY part of the pending log (the journal may
    have written any prefix of it by then) -/
theorem what_another_transaction_reads_survives_every_crash_outcome (ops : List Op) (s : St) (t k n : Nat)
    (hd : Disciplined empty ops) (hr : run empty ops = some s)
    (hl : s.lock k = some t) (hp : ∀ c ∈ s.pend, c.1 ≠ t)
    (hu : ∀ c ∈ s.pend, c.2.1 = true → ∀ kv ∈ c.2.2, kv.1 ≠ k) :
    s.read k = valOf (s.dur ++ s.pend.take n) k :=
  read_is_recovered_any_prefix s t k n (run_inv ops empty s empty_inv hd hr) hl hp hu

/-- the only thing that can be pending on a key whose lock another transaction holds is an
    unstable WRITE (whose loss the protocol allows and reports: C07) -/
theorem only_unstable_writes_are_revealed_early (ops : List Op) (s : St) (t k : Nat)
    (hd : Disciplined empty ops) (hr : run empty ops = some s) (hl : s.lock k = some t)
    (c : Commit) (hc : c ∈ s.pend) (hne : c.1 ≠ t) (kv : Nat × Nat) (hkv : kv ∈ c.2.2) (e : kv.1 = k) :
    c.2.1 = true :=
  pending_on_locked_key_is_unstable s t k (run_inv ops empty s empty_inv hd hr) hl c hc hne kv hkv e

/-- ... and it stays durable: whatever happens afterwards, the log recovery finds at any later
    crash extends the one that read was served from (nothing durable is ever taken back). -/
theorem what_was_durable_stays_durable (ops : List Op) (s s' : St) (hr : run s ops = some s') :
    ∃ ext, s'.dur = s.dur ++ ext := (run_dur_prefix ops s s' hr).imp fun _ => Eq.symm

/-- The discipline on the code (tables regenerated from fstxn/commit.go and from every caller on
    every run): the journal's `CommitWait` is called by `commitWait` alone, with the caller's `wait`,
    and the locks are released after it; every committing function of package fstxn waits, except
    `CommitUnstable`, which only the WRITE handler calls.  (The run-time counterpart is token `u` of
    the lock traces.) -/
theorem locks_are_given_back_after_the_waiting_commit :
    (∀ f ∈ GoNfsd.Gen.Skeleton.commitPaths, GoNfsd.Model.Skeleton.commitPathCheck f = true) ∧
    (∀ c ∈ GoNfsd.Gen.Skeleton.unstableCommitters, c ∈ GoNfsd.Model.Skeleton.unstableCommittersAllowed) :=
  GoNfsd.Model.Skeleton.commitPaths_checked

/-- the rule bites: the seeded change C08k (`Commit` goes through `commitWait(false)` and flushes
    afterwards) and a release before the commit are refused; the table is not empty -/
example : GoNfsd.Model.Skeleton.commitPathCheck ("Commit", [(2, "false"), (2, "false"), (4, "")]) = false := by decide +kernel

example : GoNfsd.Model.Skeleton.commitPathCheck ("commitWait", [(1, "postCommit"), (0, "wait")]) = false := by decide +kernel

example : ("commitWait", [(0, "wait"), (1, "Abort"), (1, "postCommit")]) ∈ GoNfsd.Gen.Skeleton.commitPaths := by decide +kernel

/-- Without the discipline it fails in four steps (the seeded changes C08k and C17k: the locks
    are given back, or not taken, while the commit is still in memory): transaction 1 writes key 5
    without waiting and releases; transaction 2 reads 7; a crash now recovers nothing. -/
example : ∃ s, run empty [.acquire 1 5, .commit 1 [(5, 7)] false false, .release 1 5, .acquire 2 5] = some s ∧
    s.lock 5 = some 2 ∧ s.read 5 = some 7 ∧ s.recovered 5 = none := ⟨_, rfl, rfl, rfl, rfl⟩

/-- the code's order — commit, wait for the disk, release — is disciplined, and the premises of
    the theorem are met by the reader that comes next -/
example : Disciplined empty [.acquire 1 5, .commit 1 [(5, 7)] true false, .release 1 5, .acquire 2 5] ∧
    ∃ s, run empty [.acquire 1 5, .commit 1 [(5, 7)] true false, .release 1 5, .acquire 2 5] = some s ∧
      s.lock 5 = some 2 ∧ s.pend = [] ∧ s.read 5 = some 7 ∧ s.recovered 5 = some 7 :=
  ⟨⟨trivial, trivial, nofun, trivial, trivial⟩, _, rfl, rfl, rfl, rfl, rfl⟩

/-- a commit that does not wait, followed by the release, is NOT disciplined — unless it is an
    unstable WRITE (its data may be read and then lost: the NFS contract of C07 allows exactly
    that, through the write verifier) -/
example : ¬ Disciplined empty [.acquire 1 5, .commit 1 [(5, 7)] false false, .release 1 5] :=
  fun h => nomatch h.2.2.1 _ (.head _) rfl

example : Disciplined empty [.acquire 1 5, .commit 1 [(5, 7)] false true, .release 1 5] :=
  ⟨trivial, trivial, fun | _, .head _, _ => rfl, trivial⟩

end reveal

/-! ### the journal operation's private copies (model M16) -/

section opcache
open GoNfsd.Model.OpCache

/-- WHAT A TRANSACTION READS UNDER A LOCK IS WHAT IS COMMITTED, although the journal operation answers from its private
    copies: for every history of one operation's lock acquisitions, releases and reads of an object and of other
    transactions' commits to it, if the operation is TWO-PHASE (no lock is taken after one was given back) and reads the
    object only while it holds the lock, every read returns the committed value of that moment.  Both hypotheses are what
    the lock-trace validators check on every recorded transaction (`not-two-phase`, reads under the lock: the slot rule). -/
theorem reads_under_a_two_phase_lock_are_current (evs : List GoNfsd.Model.OpCache.Ev)
    (h2 : twoPhase false evs = true) (hw : wellLocked false evs = true) :
    ∀ p ∈ go {} evs, p.1 = p.2 :=
  reads_current evs {} false init_inv h2 hw

/-- without two-phase locking it is false: the operation reads, gives the lock back, another transaction commits 7,
    the operation takes the lock again and reads — its own stale copy (seeded changes C10o, C04o, C13j, C03k) -/
theorem a_relocking_transaction_reads_its_stale_copy :
    GoNfsd.Model.OpCache.go {} [.acquire, .read, .release, .otherCommit 7, .acquire, .read] = [(0, 0), (0, 7)] := by decide

/-- and without reading under the lock: a read before the lock is taken pins a copy that the locked part of the
    transaction then uses (seeded change C17m: `simple` WRITE reads the inode before `Acquire`) -/
theorem a_read_before_the_lock_pins_a_stale_copy :
    GoNfsd.Model.OpCache.go {} [.read, .otherCommit 7, .acquire, .read] = [(0, 7)] := by decide

example : twoPhase false [.acquire, .read, .release, .otherCommit 7, .acquire, .read] = false := by decide

example : wellLocked false [.read, .otherCommit 7, .acquire, .read] = false := by decide

/-- non-vacuity: a two-phase, well-locked history with commits of others before and after -/
example : twoPhase false [.otherCommit 3, .acquire, .read, .otherCommit 4, .read, .release, .otherCommit 5] = true ∧
    wellLocked false [.otherCommit 3, .acquire, .read, .otherCommit 4, .read, .release, .otherCommit 5] = true ∧
    GoNfsd.Model.OpCache.go {} [.otherCommit 3, .acquire, .read, .otherCommit 4, .read, .release, .otherCommit 5] = [(3, 3), (3, 3)] := by decide

end opcache

end GoNfsd.Props.C03
