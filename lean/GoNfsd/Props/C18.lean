/-
C18 — KVS multi-put is atomic, durable and read-your-writes.

Theorems about the model M12 (tied to kvs/kvs.go by the `kvs` correspondence).  Atomicity and
durability across crashes rest on the journal: a MultiPut is ONE transaction committed with
wait (theorem `multiput_one_transaction` states what that transaction is); that a committed
transaction survives every crash and an uncommitted one is invisible is the journal's
contract, validated on recorded disk traces by the crash harness (C01); crash images of the
store are recovered by the `crashkv` run.
-/
import GoNfsd.Props.C06
import GoNfsd.Lemmas.Reveal
import GoNfsd.Model.Kvs
import GoNfsd.Lemmas.ObjLog
import GoNfsd.Gen.Skeleton

/-! `kvs.lockOrder` returns the keys of the put in strictly ascending order, each once, and nothing
    else: every `MultiPut` acquires its locks in ascending order (so the lock manager's "ordered
    acquisition ⇒ no deadlock", `Props/C06.ordered_no_deadlock`, applies to any set of concurrent
    puts and gets), never asks for a lock it holds, and locks exactly what it writes. -/
namespace GoNfsd.Model.Kvs

theorem mem_insertKey (k x : Nat) (l : List Nat) : x ∈ insertKey k l ↔ x = k ∨ x ∈ l := by
  fun_induction insertKey k l with
  | case1 => simp only [List.mem_singleton, List.not_mem_nil, or_false]
  | case2 y r _ ih => simp only [List.mem_cons, ih, or_left_comm]
  | case3 => simp only [List.mem_cons, or_self_left]
  | case4 => simp only [List.mem_cons]

theorem insertKey_sorted (k : Nat) (l : List Nat) (h : l.Pairwise (· < ·)) : (insertKey k l).Pairwise (· < ·) := by
  fun_induction insertKey k l with
  | case1 => exact List.pairwise_singleton ..
  | case2 y r hyk ih =>
    obtain ⟨hy, hr⟩ := List.pairwise_cons.mp h
    exact List.pairwise_cons.mpr ⟨fun z hz => ((mem_insertKey k z r).mp hz).elim (· ▸ hyk) (hy z), ih hr⟩
  | case3 => exact h
  | case4 y r h1 h2 =>
    have hky : k < y := Nat.lt_of_le_of_ne (Nat.le_of_not_lt h1) (Ne.symm h2)
    exact List.pairwise_cons.mpr
      ⟨fun z hz => (List.mem_cons.mp hz).elim (· ▸ hky) fun e => Nat.lt_trans hky ((List.pairwise_cons.mp h).1 z e), h⟩

theorem lockOrder_ascending (keys : List Nat) : (lockOrder keys).Pairwise (· < ·) :=
  List.foldlRecOn keys _ .nil fun acc h k _ => insertKey_sorted k acc h

theorem mem_foldl_insertKey (keys acc : List Nat) (x : Nat) :
    x ∈ keys.foldl (fun acc k => insertKey k acc) acc ↔ x ∈ keys ∨ x ∈ acc := by
  induction keys generalizing acc with
  | nil => simp
  | cons k r ih => rw [List.foldl_cons, ih, mem_insertKey, List.mem_cons, or_left_comm, or_assoc]

end GoNfsd.Model.Kvs

namespace GoNfsd.Props.C18
open GoNfsd.Model.Kvs GoNfsd.Gen.Consts

variable {α : Type}

theorem applyPairs_lastFor (store : Nat → α) (ps : List (Nat × α)) (key : Nat) :
    applyPairs store ps key = (lastFor key ps).getD (store key) := by
  fun_induction applyPairs store ps key with
  | case1 => rfl
  | case2 store k v rest key ih =>
    rw [ih, lastFor]
    cases lastFor key rest with
    | some w => rfl
    | none =>
      dsimp only
      by_cases hk : k = key
      · rw [if_pos hk.symm, if_pos hk]; rfl
      · rw [if_neg (Ne.symm hk), if_neg hk]

theorem multiPut_cases (k : KVS α) (ps : List (Nat × α)) :
    ((∀ p ∈ ps, inRange k p.1 = true) ∧ distinctKeys ps ≤ WAL_LOGSZ ∧
      multiPut k ps = ({ k with store := applyPairs k.store ps }, .ok none)) ∨
    multiPut k ps = (k, .refused) ∨ multiPut k ps = (k, .panic) := by
  fun_cases multiPut k ps
  case case1 => exact .inr (.inl rfl)
  case case2 hall hd => exact .inl ⟨List.all_eq_true.mp hall, Nat.le_of_not_lt hd, rfl⟩
  case case3 => exact .inr (.inr rfl)

/-- All or nothing: a MultiPut either installs every one of its pairs (the last occurrence of a
    key winning inside one put) and touches no other key, or — refused by the journal, or
    panicking on an out-of-range key — changes nothing at all. -/
theorem multiput_atomic (k : KVS α) (ps : List (Nat × α)) :
    ((multiPut k ps).2 = .ok none ∧ ∀ key, (multiPut k ps).1.store key = (lastFor key ps).getD (k.store key)) ∨
    (((multiPut k ps).2 = .refused ∨ (multiPut k ps).2 = .panic) ∧ (multiPut k ps).1 = k) := by
  obtain ⟨_, _, e⟩ | e | e := multiPut_cases k ps <;> rw [e]
  · exact .inl ⟨rfl, fun key => applyPairs_lastFor _ _ _⟩
  · exact .inr ⟨.inl rfl, rfl⟩
  · exact .inr ⟨.inr rfl, rfl⟩

/-- The transaction a successful MultiPut commits consists of whole-block overwrites of exactly
    its keys — at most the journal's capacity, all inside the key range, none inside the journal
    region — so it is one atomic journal transaction. -/
theorem multiput_one_transaction (k : KVS α) (ps : List (Nat × α)) (h : (multiPut k ps).2 = .ok none) :
    distinctKeys ps ≤ WAL_LOGSZ ∧ ∀ p ∈ ps, LOGSIZE ≤ p.1 ∧ p.1 < k.sz := by
  obtain ⟨hall, hd, _⟩ | e | e := multiPut_cases k ps
  · exact ⟨hd, fun p hp => of_decide_eq_true (hall p hp)⟩
  · rw [e] at h; cases h
  · rw [e] at h; cases h

def runPuts (k : KVS α) : List (List (Nat × α)) → KVS α
  | [] => k
  | ps :: rest => runPuts (multiPut k ps).1 rest

def effective (k : KVS α) : List (List (Nat × α)) → List (Nat × α)
  | [] => []
  | ps :: rest => (match (multiPut k ps).2 with | .ok _ => ps | _ => []) ++ effective (multiPut k ps).1 rest

theorem lastFor_append (key : Nat) (a b : List (Nat × α)) :
    lastFor key (a ++ b) = (lastFor key b).orElse (fun _ => lastFor key a) := by
  induction a with
  | nil => show lastFor key b = _; cases lastFor key b <;> rfl
  | cons p rest ih =>
    simp only [List.cons_append, lastFor, ih]
    cases lastFor key b <;> rfl

theorem sz_const (k : KVS α) (ps : List (Nat × α)) : (multiPut k ps).1.sz = k.sz := by
  obtain ⟨_, _, e⟩ | e | e := multiPut_cases k ps <;> rw [e]

/-- Read your writes, over whole histories: after any sequence of MultiPuts (successful, refused
    or mixed), Get of an in-range key returns the value of the latest successful put containing
    that key, else the initial content. -/
theorem get_latest (k : KVS α) (hist : List (List (Nat × α))) (key : Nat) :
    (runPuts k hist).store key = (lastFor key (effective k hist)).getD (k.store key) := by
  induction hist generalizing k with
  | nil => rfl
  | cons ps rest ih =>
    simp only [runPuts, effective]
    rw [ih, lastFor_append]
    rcases multiput_atomic k ps with ⟨hok, hst⟩ | ⟨hbad, hsame⟩
    · rw [hok, hst key]
      cases lastFor key (effective (multiPut k ps).1 rest) <;> rfl
    · rw [hsame]
      rcases hbad with hb | hb <;> rw [hb] <;> cases lastFor key (effective k rest) <;> rfl

/-- The key-range guards: both procedures accept exactly the keys in [LOGSIZE, sz) and panic
    (as documented) on every other key; they agree on every key. -/
theorem range_guard (k : KVS α) (key : Nat) (v : α) :
    (GoNfsd.Model.Kvs.get k key = .panic ↔ ¬ (LOGSIZE ≤ key ∧ key < k.sz)) ∧
    ((multiPut k [(key, v)]).2 = .panic ↔ ¬ (LOGSIZE ≤ key ∧ key < k.sz)) := by
  rw [show (LOGSIZE ≤ key ∧ key < k.sz) ↔ inRange k key = true from decide_eq_true_iff.symm]
  unfold GoNfsd.Model.Kvs.get multiPut
  rw [show [(key, v)].all (fun p => inRange k p.1) = inRange k key from Bool.and_true _]
  cases inRange k key with
  | false => exact ⟨⟨fun _ => Bool.false_ne_true, fun _ => rfl⟩, fun _ => Bool.false_ne_true, fun _ => rfl⟩
  | true =>
    refine ⟨⟨nofun, fun h => absurd rfl h⟩, ?_, fun h => absurd rfl h⟩
    rw [if_pos rfl]
    split <;> nofun

/-- Non-vacuity. -/
example : (runPuts ({ sz := 10000, store := fun _ => (0:Nat) } : KVS Nat)
    [[(600, 1), (601, 2)], [(600, 3), (9, 9)], [(601, 5)]]).store 600 = 1 := by decide

/-! ### durability (model M9c of `obj.Log`): a put is acknowledged by a stable commit of its own -/

/-- `MultiPut` ends with `CommitWait(true)`, which flushes up to the position of ITS OWN transaction:
    whatever other callers committed, whatever the journal refused (a put of more pairs than the log
    holds) and whatever position `obj.Log` remembers, an acknowledged put — and everything appended
    before it — is durable, and stays so. -/
theorem acknowledged_put_is_durable_whatever_was_refused (es es' : List GoNfsd.Model.ObjLog.Ev) :
    let t := GoNfsd.Model.ObjLog.step (GoNfsd.Model.ObjLog.run {} es) (.commit true true)
    t.durable = t.next ∧ t.next ≤ (GoNfsd.Model.ObjLog.run t es').durable :=
  GoNfsd.Model.ObjLog.stable_commit_stays_durable es es'

/-- ... and no function of /repo (the KVS included) calls the shared `Flush()`, which would depend
    on the remembered position (the seeded change C18h makes `MultiPut` do so). Regenerated. -/
theorem kvs_does_not_rely_on_the_remembered_position : GoNfsd.Gen.Skeleton.flushCallers = [] := by decide

/-! ### a get returns only what a crash cannot take back -/

/-- `MultiPut` and `Get` take the locks of their keys before they touch the journal and give them
    back after `CommitWait(true)` has returned (table regenerated from kvs/kvs.go on every run):
    the discipline of model M14, and the ownership the journal requires of concurrent transactions. -/
theorem kvs_holds_the_locks_across_the_waiting_commit :
    ∀ f ∈ GoNfsd.Gen.Skeleton.kvsLockUses, GoNfsd.Model.Skeleton.simpleCheck f = true := by decide +kernel

/-- the rule bites on what the code was before the repair (no locks at all: a `Get` beside a
    `MultiPut` returned the new value before it was on disk), and the table is not empty -/
example : GoNfsd.Model.Skeleton.simpleCheck ("Get", false, [(3, "true")]) = false := by decide +kernel

example : ("Get", false, [(0, ""), (3, "true"), (1, "")]) ∈ GoNfsd.Gen.Skeleton.kvsLockUses := by decide +kernel

/-- why: under that discipline, in every state reachable by any interleaving of puts and gets (the
    journal's logger running in the background), the value a `Get` reads under the key's lock is the
    value the recovered store has after a crash at that moment: no `Get` ever returns the value of a
    put that a crash can still undo (the store has no unstable writes). -/
theorem kvs_gets_return_only_durable_values (ops : List GoNfsd.Model.Reveal.Op) (s : GoNfsd.Model.Reveal.St) (t k : Nat)
    (hd : GoNfsd.Model.Reveal.Disciplined GoNfsd.Model.Reveal.empty ops)
    (hr : GoNfsd.Model.Reveal.run GoNfsd.Model.Reveal.empty ops = some s)
    (hl : s.lock k = some t) (hp : ∀ c ∈ s.pend, c.1 ≠ t) (hu : ∀ c ∈ s.pend, c.2.1 = false) :
    s.read k = s.recovered k :=
  GoNfsd.Model.Reveal.read_is_recovered_of_stable ops s t k hd hr hl hp hu

/-- without the locks (the defect): the put is appended, the get reads generation 7, the crash
    recovers nothing — the reader needs no lock, so nothing makes it wait for the flush -/
example : ∃ s, GoNfsd.Model.Reveal.run GoNfsd.Model.Reveal.empty
      [.acquire 1 5, .commit 1 [(5, 7)] false false, .release 1 5] = some s ∧
    s.read 5 = some 7 ∧ s.recovered 5 = none := ⟨_, rfl, rfl, rfl⟩

/-! ### the locks of a put are taken in ascending order -/

/-- `kvs.lockOrder` (model tied to the Go function by the `klockorder` correspondence): the keys of
    the put in strictly ascending order — so no key twice — and nothing else. -/
theorem multiput_locks_exactly_its_keys_in_ascending_order (keys : List Nat) :
    (lockOrder keys).Pairwise (· < ·) ∧ ∀ x, x ∈ lockOrder keys ↔ x ∈ keys :=
  ⟨lockOrder_ascending keys, fun x => (mem_foldl_insertKey keys [] x).trans (or_iff_left List.not_mem_nil)⟩

/-- a caller somewhere in its acquisition loop: it holds the first `i` locks of its order and asks
    for the next one (a `Get` is a put of one key at `i = 0`) -/
def caller (keys : List Nat) (i : Nat) : GoNfsd.Model.Locks.Txn :=
  { held := (lockOrder keys).take i, waiting := ((lockOrder keys)[i]?).map fun w => (w, false) }

/-- NO SET OF CONCURRENT PUTS AND GETS IS DEADLOCKED, whatever their key sets (overlapping,
    repeated keys, any order in the request) and wherever each of them stands in its loop: the
    lock manager's theorem applies because every request is above what its caller holds. -/
theorem concurrent_puts_and_gets_never_deadlock (cs : List (List Nat × Nat)) (D : List GoNfsd.Model.Locks.Txn) :
    ¬ GoNfsd.Model.Locks.Deadlocked (cs.map fun c => caller c.1 c.2) D := by
  apply GoNfsd.Props.C06.ordered_no_deadlock
  · intro t ht w hw h hh
    obtain ⟨c, _, rfl⟩ := List.mem_map.mp ht
    obtain ⟨w', hw', e⟩ := Option.map_eq_some_iff.mp hw
    cases e
    have hs := lockOrder_ascending c.1
    rw [← List.take_append_drop c.2 (lockOrder c.1), List.pairwise_append] at hs
    exact hs.2.2 h hh w (List.mem_of_getElem? ((List.getElem?_drop (j := 0)).trans hw'))
  · intro t ht w hw
    obtain ⟨c, _, rfl⟩ := List.mem_map.mp ht
    obtain ⟨_, _, e⟩ := Option.map_eq_some_iff.mp hw
    cases e

/-- the premises are met by real situations: two puts with overlapping key sets given in
    opposite orders, each holding its first lock and asking for the second, and a get -/
example : lockOrder [700, 650, 700, 660] = [650, 660, 700] ∧ lockOrder [660, 650] = [650, 660] ∧
    (caller [700, 650, 700, 660] 1).held = [650] ∧ (caller [700, 650, 700, 660] 1).waiting = some (660, false) ∧
    (caller [660] 0).waiting = some (660, false) := by decide

end GoNfsd.Props.C18
