/-
C04 — the on-disk structure is always a well-formed file system.

Proof part: the structure checker `fsckOk` (Model/Fsck.lean), which the check runs on the
logical disk of the REAL server at every quiescent point of generated histories and on every
crash image after recovery, is SOUND with respect to the declarative statement `WF` below:
if it accepts an image, then every clause of the property holds of that image.  The theorem is
what makes an accepting run evidence for the property rather than for the checker.
That `WF` holds after EVERY history and crash is decided by running the checker on the images
of sampled histories (labelled PARTIAL).  Proved for every history, further down: the name-space clauses on the
reference model M6, block ownership and the size clause on the pointer-tree models M7 / M7m and their images,
the directory and inode-table bytes on M7e / M7i.
-/
import GoNfsd.Lemmas.MultiRegion
import GoNfsd.Lemmas.JournalObjects
import GoNfsd.Lemmas.InodeTable
import GoNfsd.Props.C10
import GoNfsd.Lemmas.DirData
import GoNfsd.Lemmas.FsckMeta
import GoNfsd.Props.C15
import GoNfsd.Lemmas.Tree

namespace GoNfsd.Props.C04
open GoNfsd.Model.Fsck GoNfsd.Gen.Consts GoNfsd.Gen.Super

/-- reachable from the root by names (in lenient mode also from a directory moved by RENAME,
    the known finding; `img.moved = []` in strict mode) -/
inductive Reachable (img : Image) : Nat → Prop where
  | root : Reachable img ROOTINUM
  | moved (m : Nat) : m ∈ img.moved → Reachable img m
  | child (p c : Nat) : Reachable img p → (p, c) ∈ refs img → Reachable img c

def DotsRight (img : Image) (d p : Nat) : Prop :=
  (∃ e ∈ entsOf img d, e.slot = 0 ∧ e.name = dot ∧ e.inum = d) ∧
  (∃ e ∈ entsOf img d, e.slot = 1 ∧ e.name = dotdot ∧ (e.inum = p ∨ d ∈ img.moved))

/-- the well-formedness statement of C04 -/
structure WF (img : Image) : Prop where
  inums_distinct : (img.inodes.map (·.inum)).Nodup
  inums_in_table : ∀ ino ∈ img.inodes, ino.inum < nInode img
  ptr_in_data : ∀ b ∈ allOwned img, dataStart img ≤ b ∧ b < img.sz
  one_owner : (allOwned img).Nodup
  marked_iff : ∀ b, marked img b = true ↔ (metaBlock img.sz b = true ∨ b ∈ allOwned img)
  /-- number 0 is reserved -/
  imarked_iff : ∀ i, imarked img i = true ↔ (i = 0 ∨ ∃ ino ∈ img.inodes, ino.inum = i ∧ ino.kind ≠ 0)
  /-- sizes agree with the blocks present -/
  blocks_within_size : ∀ ino ∈ img.inodes, ∀ o ∈ owned img ino, o.minIdx < bound ino
  dir_size : ∀ ino ∈ img.inodes, ino.kind = NF3DIR →
    ino.size % DIRENTSZ = 0 ∧ ∀ e ∈ entsOf img ino.inum, (e.slot + 1) * DIRENTSZ ≤ ino.size
  names_unique : ∀ d ∈ dirInodes img, ((entsOf img d.inum).map (·.name)).Nodup
  names_wellformed : ∀ d ∈ dirInodes img, ∀ e ∈ entsOf img d.inum,
    e.name.length ≤ MAXNAMELEN ∧ (2 ≤ e.slot → e.name ≠ dot ∧ e.name ≠ dotdot)
  /-- every live object other than the root has exactly one name; every name denotes a live object -/
  one_name : ((refs img).map (·.2)).Nodup ∧
    ∀ i, i ∈ (refs img).map (·.2) ↔ ∃ ino ∈ img.inodes, ino.inum = i ∧ ino.kind ≠ 0 ∧ i ≠ ROOTINUM
  root_is_dir : ∃ ino ∈ img.inodes, ino.inum = ROOTINUM ∧ ino.kind = NF3DIR
  dots : DotsRight img ROOTINUM ROOTINUM ∧
    ∀ r ∈ refs img, (∃ d ∈ img.inodes, d.inum = r.2 ∧ d.kind = NF3DIR) → DotsRight img r.2 r.1
  /-- the directories form a tree rooted at the root: every live object is reachable -/
  tree : ∀ ino ∈ img.inodes, ino.kind ≠ 0 → Reachable img ino.inum

theorem dotsOk_sound (img : Image) (d p : Nat) (h : dotsOk img d p = true) : DotsRight img d p := by
  rw [dotsOk, Bool.and_eq_true] at h
  obtain ⟨e0, m0, s0, h0⟩ := slotEnt_test h.1
  obtain ⟨e1, m1, s1, h1⟩ := slotEnt_test h.2
  rw [Bool.and_eq_true, beq_iff_eq, beq_iff_eq] at h0
  rw [Bool.and_eq_true, Bool.or_eq_true, beq_iff_eq, beq_iff_eq, List.contains_iff_mem] at h1
  exact ⟨⟨e0, m0, s0, h0⟩, e1, m1, s1, h1⟩

theorem climbs_sound (img : Image) (fuel i : Nat) : climbs img fuel i = true → Reachable img i := by
  fun_induction climbs img fuel i <;> simp only [Bool.or_eq_true, decide_eq_true_eq, List.contains_iff_mem]
  case case1 i => exact (·.elim (· ▸ .root) (.moved i))
  case case2 fuel i ih =>
    rintro ((h | h) | h)
    · exact h ▸ .root
    · exact .moved i h
    · split at h
      · rename_i p hp
        exact .child p i (ih p h) (parentOf_some img i p hp)
      · cases h

/-- SOUNDNESS OF THE CHECKER: an image the checker accepts is a well-formed file system. -/
theorem fsck_sound (img : Image) (h : fsckOk img = true) : WF img := by
  -- every check is unfolded into the statement about lists that it decides; the clauses follow field by field
  simp only [fsckOk, chkInodes, chkPtrs, chkOneOwner, chkBitmap, chkIBitmap, chkSizes, chkNames, nameOk, chkOneName,
    chkDots, chkRootDir, chkReach, live, Bool.and_eq_true, Bool.or_eq_true, Bool.not_eq_true', List.all_eq_true,
    List.any_eq_true, List.mem_filter, List.contains_iff_mem, decide_eq_true_eq, beq_iff_eq, bne_iff_ne, ne_eq] at h
  obtain ⟨⟨⟨⟨⟨⟨⟨⟨⟨⟨⟨⟨hI, hP⟩, hO⟩, ⟨⟨⟨b1, b2⟩, b3⟩, b4⟩, b5⟩, ⟨⟨i0, i1⟩, i2⟩, i3⟩, hS⟩, hN⟩, hON⟩, hD⟩, hR⟩, hT⟩, _⟩, _⟩ := h
  exact {
    inums_distinct := hI.1
    inums_in_table := fun ino hm => (hI.2 ino hm).1
    ptr_in_data := hP
    one_owner := hO
    marked_iff := fun b => by
      simp only [metaBlock, Bool.or_eq_true, Bool.and_eq_true, decide_eq_true_eq]
      constructor
      · intro hm
        by_cases hd : b < (MkFsSuper img.sz).DataStart
        · exact Or.inl (Or.inl hd)
        · by_cases hs : img.sz ≤ b
          · exact Or.inl (Or.inr ⟨hs, inRuns_lt b1 hm⟩)
          · exact Or.inr (b4 b ((mem_clipExpand ..).2 ⟨hm, Nat.le_of_not_lt hd, Nat.lt_of_not_le hs⟩))
      · rintro ((hd | ⟨hs, hp⟩) | ho)
        · exact covers_spec _ _ _ _ b2 (Nat.zero_le _) hd
        · exact covers_spec _ _ _ _ b3 hs hp
        · exact b5 b ho
    imarked_iff := fun i => by
      constructor
      · intro hi
        rcases i1 i ((mem_clipExpand ..).2 ⟨hi, Nat.zero_le _, inRuns_lt i0 hi⟩) with h0 | ⟨ino, ⟨hm, hk⟩, he⟩
        · exact Or.inl h0
        · exact Or.inr ⟨ino, hm, he, hk⟩
      · rintro (rfl | ⟨ino, hm, rfl, hk⟩)
        · exact i3
        · exact i2 ino ⟨hm, hk⟩
    blocks_within_size := fun ino hm => (hS ino hm).1
    dir_size := fun ino hm hk => ((hS ino hm).2).resolve_left (not_not_intro hk)
    names_unique := fun d hd => (hN d hd).1.1
    names_wellformed := fun d hd e he =>
      ⟨((hN d hd).2 e he).1, fun h3 => (((hN d hd).2 e he).2).resolve_left (Nat.not_lt.mpr h3)⟩
    one_name := ⟨hON.1.1, fun i => (Iff.intro (hON.1.2 i) (hON.2 i)).trans (mem_liveNonRoot img i)⟩
    root_is_dir := (isDirInum_iff img ROOTINUM).1 hR
    dots := ⟨dotsOk_sound _ _ _ hD.1, fun r hr hd =>
      dotsOk_sound _ _ _ (((hD.2 r hr)).resolve_left (by rw [(isDirInum_iff img r.2).2 hd]; simp))⟩
    tree := fun ino hm hk => climbs_sound img _ _ (hT ino ⟨hm, hk⟩) }

/-- The blocks the checker treats as metadata are exactly the blocks that formatting marks in the
    format model (which the mkfs correspondence of C15 ties to the real `nfs.makeFs` on every
    size of a dense range): the closed form is not an independent assumption. -/
theorem metaBlock_is_format_model (sz b : Nat) (hacc : GoNfsd.Props.C15.accepts sz) (hb : b < padEnd sz) :
    GoNfsd.Model.Mkfs.freshBlockBit sz b = metaBlock sz b := by
  rw [metaBlock, decide_eq_true hb, Bool.and_true]
  exact GoNfsd.Lemmas.FsckMeta.markAlloc_bit (MkFsSuper sz) _ sz b ((GoNfsd.Props.C15.accepts_iff sz).1 hacc).2
    (Nat.lt_succ_self _) hb

/-! ### the namespace clause for ALL histories, on the reference model -/

/-- "Names are unique" holds after EVERY history: in the reference file system M6 (which the
    operation-sequence correspondence of C02 ties to the real server reply by reply, and which
    reproduces the real RENAME, target unlinking and slot reuse), every directory of every state
    reachable from the freshly formatted file system — by any sequence of operations with any
    allocator and slot choices — has pairwise distinct names. -/
theorem names_unique_in_every_reachable_state (u : Bool) (sz : Nat)
    (ops : List (GoNfsd.Model.Fs.Op × GoNfsd.Model.Fs.Choice)) (i : Nat) :
    (GoNfsd.Model.Fs.liveNames ((GoNfsd.Model.Fs.run (GoNfsd.Model.Fs.mkfs u sz) ops).1.get i).slots).Nodup :=
  GoNfsd.Model.Fs.run_NU _ ops (GoNfsd.Model.Fs.mkfs_NU u sz) i

/-- The name space of EVERY reachable state of the reference file system is well-formed — after
    any sequence of CREATE, MKDIR, SYMLINK, REMOVE, RMDIR, RENAME (within and across directories,
    onto existing targets), SETATTR, WRITE and the read-only procedures, with any allocator and
    slot choices:
      * every directory starts with live "." and ".." entries; other objects have no entries;
      * every name (an entry past the two dot entries) denotes an object in use;
      * no object has two names (there are no hard links: LINK is refused);
      * names within a directory are distinct.
    (What is NOT claimed is that ".." names the parent: RENAME leaves it stale — the known
    finding.  The proof of the RENAME case is what exposed that RENAME accepted ".." as a target
    name, fixed in 7e58aef: with that name allowed the second clause is false.) -/
theorem namespace_wellformed_in_every_reachable_state (u : Bool) (sz : Nat)
    (ops : List (GoNfsd.Model.Fs.Op × GoNfsd.Model.Fs.Choice)) :
    GoNfsd.Model.Fs.WFN (GoNfsd.Model.Fs.run (GoNfsd.Model.Fs.mkfs u sz) ops).1 :=
  GoNfsd.Model.Fs.run_WFN _ ops (GoNfsd.Model.Fs.WFN_mkfs u sz)

/-- every name denotes a live object, in every reachable state -/
theorem every_name_denotes_a_live_object (u : Bool) (sz : Nat)
    (ops : List (GoNfsd.Model.Fs.Op × GoNfsd.Model.Fs.Choice)) (d idx ino : Nat)
    (h : GoNfsd.Model.Fs.Ref (GoNfsd.Model.Fs.run (GoNfsd.Model.Fs.mkfs u sz) ops).1 d idx ino) :
    ((GoNfsd.Model.Fs.run (GoNfsd.Model.Fs.mkfs u sz) ops).1.get ino).kind ≠ 0 :=
  (namespace_wellformed_in_every_reachable_state u sz ops).nd d idx ino h

/-- no object is reachable under two names, in every reachable state -/
theorem no_object_has_two_names (u : Bool) (sz : Nat)
    (ops : List (GoNfsd.Model.Fs.Op × GoNfsd.Model.Fs.Choice)) (d1 i1 d2 i2 ino : Nat)
    (h1 : GoNfsd.Model.Fs.Ref (GoNfsd.Model.Fs.run (GoNfsd.Model.Fs.mkfs u sz) ops).1 d1 i1 ino)
    (h2 : GoNfsd.Model.Fs.Ref (GoNfsd.Model.Fs.run (GoNfsd.Model.Fs.mkfs u sz) ops).1 d2 i2 ino) :
    d1 = d2 ∧ i1 = i2 :=
  (namespace_wellformed_in_every_reachable_state u sz ops).ur d1 i1 d2 i2 ino h1 h2

/-- EXACTLY ONE NAME: in every reachable state of the reference file system every object in use
    other than the root has a name (nothing is orphaned by REMOVE, RMDIR or a RENAME over a
    target: what is freed has no entries of its own), the root has none, and — by
    `no_object_has_two_names` — that name is the only one. -/
theorem every_live_object_has_a_name (u : Bool) (sz : Nat)
    (ops : List (GoNfsd.Model.Fs.Op × GoNfsd.Model.Fs.Choice)) (ino : Nat)
    (hk : ((GoNfsd.Model.Fs.run (GoNfsd.Model.Fs.mkfs u sz) ops).1.get ino).kind ≠ 0)
    (hr : ino ≠ GoNfsd.Gen.Consts.ROOTINUM) :
    ∃ d idx, GoNfsd.Model.Fs.Ref (GoNfsd.Model.Fs.run (GoNfsd.Model.Fs.mkfs u sz) ops).1 d idx ino :=
  (GoNfsd.Model.Fs.run_WFO _ ops (GoNfsd.Model.Fs.WFO_mkfs u sz)).named ino hk hr

/-- the root is a directory and has no name, in every reachable state: it can be neither removed
    nor renamed nor overwritten -/
theorem root_is_permanent (u : Bool) (sz : Nat)
    (ops : List (GoNfsd.Model.Fs.Op × GoNfsd.Model.Fs.Choice)) :
    ((GoNfsd.Model.Fs.run (GoNfsd.Model.Fs.mkfs u sz) ops).1.get GoNfsd.Gen.Consts.ROOTINUM).kind
      = GoNfsd.Gen.Consts.NF3DIR ∧
    ∀ d idx, ¬ GoNfsd.Model.Fs.Ref (GoNfsd.Model.Fs.run (GoNfsd.Model.Fs.mkfs u sz) ops).1 d idx
      GoNfsd.Gen.Consts.ROOTINUM :=
  ⟨(GoNfsd.Model.Fs.run_WFO _ ops (GoNfsd.Model.Fs.WFO_mkfs u sz)).root_dir,
   (GoNfsd.Model.Fs.run_WFO _ ops (GoNfsd.Model.Fs.WFO_mkfs u sz)).root_unnamed⟩

/-- THE TREE CLAUSES, PARTIAL.  Full statement (what C04 asks): in every reachable state "."
    names the directory itself, ".." names the directory holding its name, the root's ".." is
    the root, and every object in use is reachable from the root.  Proved: for every history in
    which no RENAME moves a directory to ANOTHER directory (`NoDirMoves`: decided operation by
    operation on the state the operation meets; renames of files anywhere, of directories within
    their directory, and renames over targets are all included).  Missing: histories with such a
    move — there the statement is FALSE of model and code alike (`tree_clauses_fail_after_a_directory_move`
    below; the known finding rename:directory-dotdot-and-cycles). -/
theorem tree_clauses_partial (u : Bool) (sz : Nat)
    (ops : List (GoNfsd.Model.Fs.Op × GoNfsd.Model.Fs.Choice))
    (hn : GoNfsd.Model.Fs.NoDirMoves (GoNfsd.Model.Fs.mkfs u sz) ops) :
    GoNfsd.Model.Fs.WFT (GoNfsd.Model.Fs.run (GoNfsd.Model.Fs.mkfs u sz) ops).1 :=
  GoNfsd.Model.Fs.run_WFT _ ops (GoNfsd.Model.Fs.WFT_mkfs u sz) hn

/-- every object in use is reachable from the root by names (same hypothesis) -/
theorem every_live_object_reachable_partial (u : Bool) (sz : Nat)
    (ops : List (GoNfsd.Model.Fs.Op × GoNfsd.Model.Fs.Choice))
    (hn : GoNfsd.Model.Fs.NoDirMoves (GoNfsd.Model.Fs.mkfs u sz) ops) (ino : Nat)
    (hk : ((GoNfsd.Model.Fs.run (GoNfsd.Model.Fs.mkfs u sz) ops).1.get ino).kind ≠ 0) :
    GoNfsd.Model.Fs.Reach (GoNfsd.Model.Fs.run (GoNfsd.Model.Fs.mkfs u sz) ops).1 ino :=
  (tree_clauses_partial u sz ops hn).tree ino hk

/-- MKDIR /a; MKDIR /a/b; RENAME /a/b → /b -/
def dirMoveHistory : List (GoNfsd.Model.Fs.Op × GoNfsd.Model.Fs.Choice) :=
  [(.mkdir (GoNfsd.Model.Fs.mkFh 1 1) [97], { inum := 2, slot := 2 }),
   (.mkdir (GoNfsd.Model.Fs.mkFh 2 1) [98], { inum := 3, slot := 2 }),
   (.rename (GoNfsd.Model.Fs.mkFh 2 1) [98] (GoNfsd.Model.Fs.mkFh 1 1) [98], { slot := 3 })]

/-- The full statement is false: after a directory was moved to another directory its ".." still
    names the old parent (the model reproduces the code: the `seq` correspondence compares the
    LOOKUP of ".." in exactly this scenario). -/
theorem tree_clauses_fail_after_a_directory_move :
    ¬ GoNfsd.Model.Fs.WFT (GoNfsd.Model.Fs.run (GoNfsd.Model.Fs.mkfs true 100000) dirMoveHistory).1 := by
  intro h
  -- /b is slot 3 of the root and is directory 3, whose ".." still names directory 2
  have ⟨hA, hB, hC⟩ : ((GoNfsd.Model.Fs.run (GoNfsd.Model.Fs.mkfs true 100000) dirMoveHistory).1.get 1).slots[3]? = some ⟨3, [98]⟩ ∧
      ((GoNfsd.Model.Fs.run (GoNfsd.Model.Fs.mkfs true 100000) dirMoveHistory).1.get 3).kind = NF3DIR ∧
      ((GoNfsd.Model.Fs.run (GoNfsd.Model.Fs.mkfs true 100000) dirMoveHistory).1.get 3).slots[1]? = some ⟨2, [46, 46]⟩ := by
    decide +kernel
  obtain ⟨sl, hg, hi⟩ := h.dotdot 1 3 3 ⟨_, hA, rfl, by decide, by decide⟩ hB
  rw [hC] at hg
  cases hg
  cases hi

/-- Non-vacuity of `tree_clauses_partial`: a history with a file moved across directories over
    an existing target, and a directory renamed within its directory, meets `NoDirMoves`. -/
example : GoNfsd.Model.Fs.NoDirMoves (GoNfsd.Model.Fs.mkfs true 100000)
      [(.mkdir (GoNfsd.Model.Fs.mkFh 1 1) [97], { inum := 2, slot := 2 }),
       (.create (GoNfsd.Model.Fs.mkFh 2 1) [102] 0, { inum := 3, slot := 2 }),
       (.create (GoNfsd.Model.Fs.mkFh 1 1) [103] 0, { inum := 4, slot := 3 }),
       (.rename (GoNfsd.Model.Fs.mkFh 2 1) [102] (GoNfsd.Model.Fs.mkFh 1 1) [103], { slot := 3 }),
       (.rename (GoNfsd.Model.Fs.mkFh 1 1) [97] (GoNfsd.Model.Fs.mkFh 1 1) [99], { slot := 2 })] := by
  decide +kernel

/-- Non-vacuity: a history with a cross-directory RENAME onto an existing target reaches a state
    with names in two directories. -/
example :
    let s := (GoNfsd.Model.Fs.run (GoNfsd.Model.Fs.mkfs true 100000)
      [(.mkdir (GoNfsd.Model.Fs.mkFh 1 1) [97], { inum := 2, slot := 2 }),
       (.create (GoNfsd.Model.Fs.mkFh 2 1) [102] 0, { inum := 3, slot := 2 }),
       (.create (GoNfsd.Model.Fs.mkFh 1 1) [103] 0, { inum := 4, slot := 3 }),
       (.rename (GoNfsd.Model.Fs.mkFh 2 1) [102] (GoNfsd.Model.Fs.mkFh 1 1) [103], { slot := 3 })]).1
    ((s.get 1).slots.map (·.inum), (s.get 2).slots.map (·.inum), (s.get 4).kind, (s.get 3).kind)
      = ([1, 1, 2, 3], [2, 1, 0], 0, 1) := by
  decide +kernel

/-! ### "no block has two owners" under block mapping, on the block-map model M7 -/

/-- `bmap` — the only place a file acquires blocks (WRITE, hole-filling READ, the partial block
    of a truncation) — keeps the pointer tree of the file well-formed: no block is pointed to from
    two positions, and what the allocator still holds stays unused and zero.  Hypothesis `WFB`
    on the state before is observed on the real file and allocator by the `blockmap` driver. -/
theorem bmap_keeps_one_owner (s : GoNfsd.Model.BlockMap.S) (blks : List Nat) (bn : Nat)
    (h : GoNfsd.Model.BlockMap.WFB s blks) (hbn : bn < NDIRECT + NBLKBLK + NBLKBLK * NBLKBLK) :
    GoNfsd.Model.BlockMap.WFB (GoNfsd.Model.BlockMap.bmap s blks bn).1 (GoNfsd.Model.BlockMap.bmap s blks bn).2.1 :=
  (GoNfsd.Model.BlockMap.bmap_ok s blks bn h hbn).wf

/-- From the empty file, after ANY sequence of mappings of addressable file blocks — whatever
    the allocator hands out, provided it never hands out a block twice (0 = out of space, at any
    point) — the pointer tree is well-formed: in particular no disk block serves two positions. -/
theorem one_owner_after_any_mapping_sequence (allocs bns : List Nat)
    (hd : GoNfsd.Model.BlockMap.DistinctNZ allocs)
    (hb : ∀ bn ∈ bns, bn < NDIRECT + NBLKBLK + NBLKBLK * NBLKBLK) :
    GoNfsd.Model.BlockMap.WFB
      (GoNfsd.Model.BlockMap.bmapAll { st := GoNfsd.Model.BlockMap.emptyStore, allocs := allocs } (List.replicate (NDIRECT + 2) 0) bns).1
      (GoNfsd.Model.BlockMap.bmapAll { st := GoNfsd.Model.BlockMap.emptyStore, allocs := allocs } (List.replicate (NDIRECT + 2) 0) bns).2 :=
  GoNfsd.Model.BlockMap.bmapAll_wf _ _ bns (GoNfsd.Model.BlockMap.WFB_empty allocs hd) hb

/-- NO BLOCK HAS TWO OWNERS, ACROSS FILES: any number of files (pointer trees) over one store of index
    blocks and one allocator; after ANY sequence of mappings of addressable blocks of ANY of the files
    — whatever the allocator hands out, provided it hands out no block twice — no disk block is
    pointed to from two positions, of one file or of two: data blocks, indirect blocks,
    double-indirect roots and middle blocks alike; and what the allocator still holds is used by no
    file.  (One step: `mbmap_ok`, which also shows that no pointer of any OTHER file moves.) -/
theorem one_owner_across_files_after_any_mapping_sequence (allocs : List Nat)
    (hd : GoNfsd.Model.BlockMap.DistinctNZ allocs) (ops : List (Nat × Nat))
    (hb : ∀ op ∈ ops, op.2 < NDIRECT + NBLKBLK + NBLKBLK * NBLKBLK) :
    GoNfsd.Model.BlockMap.MWF
      (ops.foldl GoNfsd.Model.BlockMap.mstep ({ st := GoNfsd.Model.BlockMap.emptyStore, allocs := allocs }, fun _ => List.replicate (NDIRECT + 2) 0)).1
      (ops.foldl GoNfsd.Model.BlockMap.mstep ({ st := GoNfsd.Model.BlockMap.emptyStore, allocs := allocs }, fun _ => List.replicate (NDIRECT + 2) 0)).2 :=
  GoNfsd.Model.BlockMap.mrun_wf ops _ (GoNfsd.Model.BlockMap.MWF_empty allocs hd) hb

/-- ... and mapping a block of one file moves no pointer of any other file. -/
theorem mapping_in_one_file_moves_no_pointer_of_another (s : GoNfsd.Model.BlockMap.S) (roots : Nat → List Nat)
    (a bn : Nat) (h : GoNfsd.Model.BlockMap.MWF s roots) (hbn : bn < NDIRECT + NBLKBLK + NBLKBLK * NBLKBLK)
    (b : Nat) (hb : b ≠ a) (q : GoNfsd.Model.BlockMap.Pos) (hq : q.valid) :
    GoNfsd.Model.BlockMap.ptr (GoNfsd.Model.BlockMap.bmap s (roots a) bn).1.st (roots b) q =
      GoNfsd.Model.BlockMap.ptr s.st (roots b) q :=
  (GoNfsd.Model.BlockMap.mbmap_ok s roots a bn h hbn).2 b hb q hq

/-- ... AND UNDER TRUNCATION: the run of `Shrink` on one file of many (from its bookkeeping bound
    `N` down to `T`) keeps one owner per block across all files, moves no pointer of another file,
    and every block it frees belongs to NOBODY afterwards and is all zeros — so handing freed
    blocks out again, to any file, keeps the invariant (`blocks_may_be_recycled`). -/
theorem truncation_of_one_file_among_many (s : GoNfsd.Model.BlockMap.S) (roots : Nat → List Nat) (a T N : Nat)
    (h : GoNfsd.Model.BlockMap.MWF s roots) (hN : N ≤ GoNfsd.Model.BlockMap.MAXBLKS)
    (hemp : GoNfsd.Model.BlockMap.EmptyFrom s.st (roots a) N) :
    GoNfsd.Model.BlockMap.MWF (GoNfsd.Model.BlockMap.shrinkTo s (roots a) T N).1
      (GoNfsd.Model.BlockMap.setRoots roots a (GoNfsd.Model.BlockMap.shrinkTo s (roots a) T N).2) ∧
    (∀ b, b ≠ a → ∀ q, q.valid →
      GoNfsd.Model.BlockMap.ptr (GoNfsd.Model.BlockMap.shrinkTo s (roots a) T N).1.st (roots b) q =
        GoNfsd.Model.BlockMap.ptr s.st (roots b) q) ∧
    (∀ x, x ∈ (GoNfsd.Model.BlockMap.shrinkTo s (roots a) T N).1.freed → x ∉ s.freed →
      x ≠ 0 ∧
      (∀ f p, p.valid → GoNfsd.Model.BlockMap.ptr (GoNfsd.Model.BlockMap.shrinkTo s (roots a) T N).1.st
        (GoNfsd.Model.BlockMap.setRoots roots a (GoNfsd.Model.BlockMap.shrinkTo s (roots a) T N).2 f) p ≠ x) ∧
      ∀ i, (GoNfsd.Model.BlockMap.shrinkTo s (roots a) T N).1.st x i = 0) :=
  GoNfsd.Model.BlockMap.mshrink_ok s roots a T N h hN hemp

theorem blocks_may_be_recycled (s : GoNfsd.Model.BlockMap.S) (roots : Nat → List Nat) (L : List Nat)
    (h : GoNfsd.Model.BlockMap.MWF s roots)
    (hL : ∀ x ∈ L, x ≠ 0 → (∀ f p, p.valid → GoNfsd.Model.BlockMap.ptr s.st (roots f) p ≠ x) ∧ ∀ i, s.st x i = 0)
    (hd : GoNfsd.Model.BlockMap.DistinctNZ (s.allocs ++ L)) :
    GoNfsd.Model.BlockMap.MWF { s with allocs := s.allocs ++ L } roots :=
  GoNfsd.Model.BlockMap.mrecycle s roots L h hL hd

/-- ... composed: after ANY history of mappings, truncations and reuse of freed blocks on any
    number of files (each truncation starting at its file's bookkeeping bound, each reused block
    owned by nobody, zero and not in the allocator already) no block has two owners. -/
theorem one_owner_across_files_after_any_history (allocs : List Nat)
    (hd : GoNfsd.Model.BlockMap.DistinctNZ allocs) (ops : List GoNfsd.Model.BlockMap.MOp)
    (hv : GoNfsd.Model.BlockMap.MValid ({ st := GoNfsd.Model.BlockMap.emptyStore, allocs := allocs }, fun _ => List.replicate (NDIRECT + 2) 0) ops) :
    GoNfsd.Model.BlockMap.MWF
      (ops.foldl GoNfsd.Model.BlockMap.mapply ({ st := GoNfsd.Model.BlockMap.emptyStore, allocs := allocs }, fun _ => List.replicate (NDIRECT + 2) 0)).1
      (ops.foldl GoNfsd.Model.BlockMap.mapply ({ st := GoNfsd.Model.BlockMap.emptyStore, allocs := allocs }, fun _ => List.replicate (NDIRECT + 2) 0)).2 :=
  GoNfsd.Model.BlockMap.mhistory_wf ops _ (GoNfsd.Model.BlockMap.MWF_empty allocs hd) hv

/-- Non-vacuity: file 1 maps a direct and an indirect block, is truncated to nothing, its three
    blocks go back to the allocator, file 2 takes two of them: the history is valid. -/
example :
    let ops : List GoNfsd.Model.BlockMap.MOp := [.map 1 3, .map 1 9, .shrink 1 0 10, .recycle [102, 101, 100], .map 2 0, .map 2 8]
    let r := ops.foldl GoNfsd.Model.BlockMap.mapply
      ({ st := GoNfsd.Model.BlockMap.emptyStore, allocs := [100, 101, 102] }, fun _ => List.replicate (NDIRECT + 2) 0)
    (r.2 1, r.2 2, r.1.allocs, r.1.freed) = ([0, 0, 0, 0, 0, 0, 0, 0, 0, 0], [102, 0, 0, 0, 0, 0, 0, 0, 101, 0], [], [100, 101, 102]) := by
  rfl

/-- THE CHECKER'S OWNERSHIP IS THE MODEL'S: on an image whose inode carries the model's root list
    and whose index blocks hold the model's non-null entries, the blocks the structure checker
    attributes to the inode (`Fsck.owned`, walking the image) are exactly the non-null pointers of
    the model's tree, position by position in the checker's order. -/
theorem checker_ownership_is_the_pointer_tree (img : GoNfsd.Model.Fsck.Image) (st : GoNfsd.Model.BlockMap.Store)
    (ino : GoNfsd.Model.Fsck.DInode) (hl : ino.blks.length = NDIRECT + 2)
    (h : GoNfsd.Model.BlockMap.IndOK img st ino.blks) :
    (GoNfsd.Model.Fsck.owned img ino).map (·.blk) =
      GoNfsd.Model.BlockMap.nz (GoNfsd.Model.BlockMap.posList.map (GoNfsd.Model.BlockMap.ptr st ino.blks)) :=
  GoNfsd.Model.BlockMap.owned_blk img st ino hl h

/-- ... hence the image of EVERY state reachable by any history of mappings, truncations and reuse
    of freed blocks on any number of files passes the checker's one-owner test, for any finite set
    of files put into the image: what `fsck` checks on the images exported from the running server
    is the invariant the model keeps. -/
theorem checker_one_owner_on_every_reachable_image (allocs : List Nat)
    (hd : GoNfsd.Model.BlockMap.DistinctNZ allocs) (ops : List GoNfsd.Model.BlockMap.MOp)
    (hv : GoNfsd.Model.BlockMap.MValid ({ st := GoNfsd.Model.BlockMap.emptyStore, allocs := allocs }, fun _ => List.replicate (NDIRECT + 2) 0) ops)
    (files : List Nat) (hn : files.Nodup) :
    GoNfsd.Model.Fsck.chkOneOwner
      (GoNfsd.Model.BlockMap.imageOf
        (ops.foldl GoNfsd.Model.BlockMap.mapply ({ st := GoNfsd.Model.BlockMap.emptyStore, allocs := allocs }, fun _ => List.replicate (NDIRECT + 2) 0)).1.st
        (files.map fun a => (a, (ops.foldl GoNfsd.Model.BlockMap.mapply ({ st := GoNfsd.Model.BlockMap.emptyStore, allocs := allocs }, fun _ => List.replicate (NDIRECT + 2) 0)).2 a))) = true :=
  GoNfsd.Model.BlockMap.imageOf_one_owner _ _ (one_owner_across_files_after_any_history allocs hd ops hv) files hn

/-- ... and the checker's "every pointer lies inside the data region" as well, provided the numbers
    the allocator starts with and the numbers handed back to it lie there (which C15 proves of the
    formatted bitmap and C05 / M8b of the frees): every pointer of every file was taken from the
    allocator (`StepOK.fromAllocs`), truncation only removes pointers. -/
theorem checker_pointers_in_the_data_region_on_every_reachable_image (sz : Nat) (allocs : List Nat)
    (hd : GoNfsd.Model.BlockMap.DistinctNZ allocs) (ops : List GoNfsd.Model.BlockMap.MOp)
    (hv : GoNfsd.Model.BlockMap.MValid ({ st := GoNfsd.Model.BlockMap.emptyStore, allocs := allocs }, fun _ => List.replicate (NDIRECT + 2) 0) ops)
    (ha : ∀ x ∈ allocs, x ≠ 0 → (GoNfsd.Gen.Super.MkFsSuper sz).DataStart ≤ x ∧ x < sz)
    (hrec : GoNfsd.Model.BlockMap.RecycleInRegion (GoNfsd.Gen.Super.MkFsSuper sz).DataStart sz ops)
    (files : List Nat) :
    GoNfsd.Model.Fsck.chkPtrs
      (GoNfsd.Model.BlockMap.imageOfSz sz
        (ops.foldl GoNfsd.Model.BlockMap.mapply ({ st := GoNfsd.Model.BlockMap.emptyStore, allocs := allocs }, fun _ => List.replicate (NDIRECT + 2) 0)).1.st
        (files.map fun a => (a, (ops.foldl GoNfsd.Model.BlockMap.mapply ({ st := GoNfsd.Model.BlockMap.emptyStore, allocs := allocs }, fun _ => List.replicate (NDIRECT + 2) 0)).2 a))) = true :=
  GoNfsd.Model.BlockMap.imageOf_ptrs_in_region sz _ _ (one_owner_across_files_after_any_history allocs hd ops hv)
    (GoNfsd.Model.BlockMap.mhistory_region _ sz ops _ (GoNfsd.Model.BlockMap.MWF_empty allocs hd) hv hrec
      (GoNfsd.Model.BlockMap.region_empty _ sz allocs ha)) files

/-- the test is not vacuous: a pointer into the inode table fails it (disk of 2000 blocks) -/
example : GoNfsd.Model.Fsck.chkPtrs
    { (default : GoNfsd.Model.Fsck.Image) with
      inodes := [{ inum := 2, kind := 1, nlink := 1, gen := 0, size := 0, shrink := 0, blks := [600, 0, 0, 0, 0, 0, 0, 0, 0, 0] }],
      sz := 2000 } = false := rfl

/-- ... and the checker's "sizes agree with the blocks present" (no block at or beyond
    `max(⌈size/4096⌉, ShrinkSize)`): on the image of files that satisfy the bookkeeping invariant
    `InoOK`, which every history of WRITEs, READs of holes and resizes keeps
    (`Props/C05.nothing_mapped_beyond_the_bookkeeping`: `inoRun_ok`). -/
theorem checker_sizes_on_the_image_of_files_in_bookkeeping (s : GoNfsd.Model.BlockMap.S)
    (files : List (Nat × GoNfsd.Model.BlockMap.Ino)) (h : ∀ f ∈ files, GoNfsd.Model.BlockMap.InoOK s f.2) :
    GoNfsd.Model.Fsck.chkSizes (GoNfsd.Model.BlockMap.imageOfInos s.st files) = true := by
  open GoNfsd.Model.BlockMap in
  refine List.all_eq_true.mpr fun ino hino => ?_
  obtain ⟨f, hf, rfl⟩ := List.mem_map.mp hino
  rw [show ((1 : Nat) != NF3DIR) = true from rfl, Bool.true_or, Bool.and_true]
  -- sizes play no part in the index blocks
  have hind : IndOK (imageOfInos s.st files) s.st f.2.blks :=
    imageOf_IndOK s.st (files.map fun f : Nat × Ino => (f.1, f.2.blks)) (f.1, f.2.blks) (List.mem_map_of_mem hf)
  refine owned_below_bound (imageOfInos s.st files) s.st _ (h f hf).wf.len hind ?_
  rw [show GoNfsd.Model.Fsck.bound _ = GoNfsd.Model.BlockMap.bound f.2 from Nat.max_comm _ _]
  exact (h f hf).empty

/-- in particular after any history of one file from the empty file -/
theorem checker_sizes_after_any_history (allocs : List Nat) (hd : GoNfsd.Model.BlockMap.DistinctNZ allocs)
    (ops : List GoNfsd.Model.BlockMap.IOp) (hops : ∀ op ∈ ops, op.ok) (inum : Nat) :
    GoNfsd.Model.Fsck.chkSizes (GoNfsd.Model.BlockMap.imageOfInos
      (GoNfsd.Model.BlockMap.inoRun ({ st := GoNfsd.Model.BlockMap.emptyStore, allocs := allocs }, GoNfsd.Model.BlockMap.emptyIno) ops).1.st
      [(inum, (GoNfsd.Model.BlockMap.inoRun ({ st := GoNfsd.Model.BlockMap.emptyStore, allocs := allocs }, GoNfsd.Model.BlockMap.emptyIno) ops).2)]) = true := by
  refine checker_sizes_on_the_image_of_files_in_bookkeeping _ _ fun f hf => ?_
  rw [List.mem_singleton.1 hf]
  exact GoNfsd.Model.BlockMap.inoRun_ok _ ops (GoNfsd.Model.BlockMap.InoOK_empty allocs hd) hops

/-- the clause is not vacuous: a block at file index 3 of a file whose size accounts for one block fails it -/
example : GoNfsd.Model.Fsck.chkSizes
    { (default : GoNfsd.Model.Fsck.Image) with
      inodes := [{ inum := 2, kind := 1, nlink := 1, gen := 0, size := 100, shrink := 0, blks := [700, 0, 0, 701, 0, 0, 0, 0, 0, 0] }] } = false := rfl

/-- the test is not vacuous on images: two inodes pointing at one block fail it, and so does an
    inode whose index block repeats a direct pointer -/
example : GoNfsd.Model.Fsck.chkOneOwner
    { (default : GoNfsd.Model.Fsck.Image) with
      inodes := [{ inum := 2, kind := 1, nlink := 1, gen := 0, size := 0, shrink := 0, blks := [700, 0, 0, 0, 0, 0, 0, 0, 0, 0] },
                 { inum := 3, kind := 1, nlink := 1, gen := 0, size := 0, shrink := 0, blks := [0, 700, 0, 0, 0, 0, 0, 0, 0, 0] }] } = false := by decide +kernel

example : GoNfsd.Model.Fsck.chkOneOwner
    { (default : GoNfsd.Model.Fsck.Image) with
      inodes := [{ inum := 2, kind := 1, nlink := 1, gen := 0, size := 0, shrink := 0, blks := [700, 0, 0, 0, 0, 0, 0, 0, 701, 0] }],
      ind := [(701, [(4, 700)])] } = false := by decide +kernel

/-- Non-vacuity: two files take turns at the allocator (direct, indirect and double-indirect blocks):
    all pointers differ. -/
example :
    let r := [(1, 3), (2, 3), (1, 8 + 5), (2, 8 + 5), (2, 8 + 512 + 7), (1, 8 + 512 + 7)].foldl GoNfsd.Model.BlockMap.mstep
      ({ st := GoNfsd.Model.BlockMap.emptyStore, allocs := [100, 101, 102, 103, 104, 105, 106, 107, 108, 109, 110, 111, 112, 113] },
        fun _ => List.replicate (NDIRECT + 2) 0)
    (r.2 1, r.2 2, r.1.allocs) = ([0, 0, 0, 100, 0, 0, 0, 0, 102, 109], [0, 0, 0, 101, 0, 0, 0, 0, 104, 106], [112, 113]) := by
  rfl

/-- Non-vacuity: mapping a direct, an indirect and two double-indirect blocks from the empty file
    with an allocator that runs dry in between builds a three-level tree. -/
example :
    let r := GoNfsd.Model.BlockMap.bmapAll { st := GoNfsd.Model.BlockMap.emptyStore, allocs := [100, 101, 102, 103, 104, 105, 0, 106, 107] }
      (List.replicate (NDIRECT + 2) 0) [3, 8 + 5, 8 + 512 + 512 * 2 + 7, 8 + 512 + 512 * 2 + 9, 8 + 512 + 512 * 4]
    (r.2, GoNfsd.Model.BlockMap.lookup r.1.st r.2 3, GoNfsd.Model.BlockMap.lookup r.1.st r.2 13,
      GoNfsd.Model.BlockMap.lookup r.1.st r.2 (8 + 512 + 512 * 2 + 7), GoNfsd.Model.BlockMap.lookup r.1.st r.2 (8 + 512 + 512 * 2 + 9),
      GoNfsd.Model.BlockMap.lookup r.1.st r.2 (8 + 512 + 512 * 4), r.1.allocs)
      = ([0, 0, 0, 100, 0, 0, 0, 0, 101, 103], 100, 102, 105, 0, 107, []) := by
  decide +kernel

/-! ### directories as blocks (models M7e on M7d on M7)

A directory is a file of 128-byte slots.  The slot list the reference model M6 works with is the
decoding (`dir.decodeDirEnt`) of the bytes of the block-level file; the one WRITE that
`AddNameDir` / `RemNameDir` / `InitDir` issue is `putSlot` / `set` on it.  With
`Props/C12.block_level_file_refines_the_content_log` and `pointer_tree_step_is_the_mapping_step`
this carries the namespace theorems above (stated on slot lists) down to directory BLOCKS. -/
section dirblocks
open GoNfsd.Model.FileData GoNfsd.Model.Codec

/-- The entry written at a slot appears at that slot (appended if the slot is the end of the
    directory), every other slot decodes exactly as before — whichever blocks the slots lie in,
    mapped or not — and the size stays a whole number of slots: `addName` of the reference model. -/
theorem directory_slot_write_is_putSlot (f : F) (fresh : Nat → Nat) (slot inum : Nat) (name : List UInt8)
    (h : Inv f) (hf : FreshOK f fresh) (L : Nat) (hsz : f.size = L * DS) (hslot : slot ≤ L)
    (hi : inum < 2 ^ 64) (hn : name.length ≤ MAXNAMELEN) :
    slotsOf (f.write fresh (slot * DS) (encodeDirEnt inum name)) =
      GoNfsd.Model.Fs.putSlot (slotsOf f) slot { inum := inum, name := name } ∧
    (f.write fresh (slot * DS) (encodeDirEnt inum name)).size =
      (GoNfsd.Model.Fs.putSlot (slotsOf f) slot { inum := inum, name := name }).length * DS :=
  slot_write_is_putSlot f fresh slot inum name h hf L hsz hslot hi hn

/-- `RemNameDir` frees exactly the slot it names: `remNameAt` of the reference model. -/
theorem directory_slot_clear_is_set (f : F) (fresh : Nat → Nat) (idx : Nat) (h : Inv f)
    (hf : FreshOK f fresh) (L : Nat) (hsz : f.size = L * DS) (hidx : idx < L) :
    slotsOf (f.write fresh (idx * DS) (encodeDirEnt 0 [])) = (slotsOf f).set idx GoNfsd.Model.Fs.freeSlot :=
  slot_clear_is_set f fresh idx h hf L hsz hidx

/-- REFINEMENT for directories: after ANY history of entry writes and entry removals (at slots
    inside the directory or at its end, with names and numbers that fit) the directory blocks
    decode to the slot list the reference model has, and the size is that many slots. -/
theorem directory_blocks_refine_the_slot_list (ops : List DirOp) (ha : DirAllowed F.empty ops) :
    slotsOf (ops.foldl F.dirApply F.empty) = ops.foldl slotApply [] ∧
    (ops.foldl F.dirApply F.empty).size = (ops.foldl slotApply []).length * DS := by
  obtain ⟨_, h2, h3⟩ := dir_history_refines ops F.empty empty_inv ⟨0, by simp [F.empty]⟩ ha
  have h0 : slotsOf F.empty = [] := by simp [slotsOf, F.empty]
  rw [h0] at h2 h3
  exact ⟨h2, h3⟩

/-- a history that draws its blocks from ONE allocator `fresh`: what the callers guarantee
    (`DirAllowed`), with the slots and bounds read on the slot lists of the reference model -/
def SlotsAllowed (fresh : Nat → Nat) : List GoNfsd.Model.Fs.Slot → List DirOp → Prop
  | _, [] => True
  | S, op :: rest =>
    (match op with
      | .put fr slot inum name => fr = fresh ∧ slot ≤ S.length ∧ inum < 2 ^ 64 ∧ name.length ≤ MAXNAMELEN
      | .clear fr idx => fr = fresh ∧ idx < S.length) ∧
    SlotsAllowed fresh (slotApply S op) rest

/-- an allocator that is good for a file stays good while the file takes its blocks from it, so the
    hypotheses about the blocks of a history reduce to one about its first state -/
theorem dirAllowed_of_slotsAllowed (fresh : Nat → Nat) (ops : List DirOp) :
    ∀ f : F, GoNfsd.Model.FileData.Inv f → FreshOK f fresh → (∃ L, f.size = L * DS) →
      SlotsAllowed fresh (slotsOf f) ops → DirAllowed f ops := by
  induction ops with
  | nil => intro _ _ _ _ _; trivial
  | cons op rest ih =>
    intro f hi hf ⟨L, hL⟩ ⟨hop, hrest⟩
    have hlen : (slotsOf f).length = f.size / DS := slotsOf_length f
    have hLd : f.size / DS = L := hL ▸ Nat.mul_div_cancel L (by decide)
    have hf' : ∀ off bytes, FreshOK (f.write fresh off bytes) fresh :=
      fun off bytes => (writeFrom_ok fresh bytes f off hi.inj hf).2.1
    cases op with
    | put fr slot inum name =>
      obtain ⟨rfl, hs, hin, hn⟩ := hop
      rw [hlen] at hs
      obtain ⟨h1, h2⟩ := slot_write_is_putSlot f fr slot inum name hi hf L hL (hLd ▸ hs) hin hn
      exact ⟨⟨hf, hs, hin, hn⟩, ih _ (write_inv f fr _ _ hi hf) (hf' _ _) ⟨_, h2⟩ (h1 ▸ hrest)⟩
    | clear fr idx =>
      obtain ⟨rfl, hs⟩ := hop
      rw [hlen] at hs
      have h1 := slot_clear_is_set f fr idx hi hf L hL (hLd ▸ hs)
      have h2 := (slot_write_is_putSlot f fr idx 0 [] hi hf L hL (Nat.le_of_lt (hLd ▸ hs)) (by decide) (Nat.zero_le _)).2
      exact ⟨⟨hf, hs⟩, ih _ (write_inv f fr _ _ hi hf) (hf' _ _) ⟨_, h2⟩ (h1 ▸ hrest)⟩

theorem freshOK_empty (fresh : Nat → Nat) (h0 : ∀ i, fresh i ≠ 0) (hinj : ∀ i j, fresh i = fresh j → i = j) :
    FreshOK F.empty fresh :=
  fun i _ => ⟨h0 i, fun _ => (h0 i).symm, fun _ => rfl, fun j _ e => hinj j i e⟩

/-- Non-vacuity: `InitDir`'s first entry on an empty directory satisfies the hypotheses, and a
    three-entry history (".", "..", then a name; the name removed again) decodes as expected. -/
example : DirAllowed F.empty [.put (fun i => 100 + i) 0 1 [46]] :=
  ⟨⟨freshOK_empty _ (fun i => by simp) fun i j e => by simpa using e, Nat.zero_le _, by decide, by decide⟩, trivial⟩

example :
    let ops : List DirOp := [.put (fun i => 100 + i) 0 1 [46], .put (fun i => 100 + i) 1 1 [46, 46],
      .put (fun i => 100 + i) 2 5 [97], .clear (fun i => 100 + i) 2, .put (fun i => 100 + i) 3 6 [98]]
    ((slotsOf (ops.foldl F.dirApply F.empty)).map fun s => (s.inum, s.name)) =
      [(1, [46]), (1, [46, 46]), (0, []), (6, [98])] := by
  intro ops
  -- the history meets the hypotheses of the refinement, so the blocks decode to the slot list of the
  -- reference model, which is small enough to evaluate
  have ha : DirAllowed F.empty ops :=
    dirAllowed_of_slotsAllowed (fun i => 100 + i) _ F.empty empty_inv
      (freshOK_empty _ (fun i => by simp) fun i j e => by simpa using e) ⟨0, rfl⟩
      ⟨⟨rfl, by decide⟩, ⟨rfl, by decide⟩, ⟨rfl, by decide⟩, ⟨rfl, by decide⟩, ⟨rfl, by decide⟩, trivial⟩
  rw [(directory_blocks_refine_the_slot_list ops ha).1]
  decide

end dirblocks

/-! ### the inode table as disk bytes (model M7i, on the layout regenerated from super/super.go) -/
section inodetable
open GoNfsd.Model.InodeTable GoNfsd.Gen.Super GoNfsd.Model.Codec

/-- The slot `super.Inum2Addr` gives an inode lies inside one block of the inode table (from
    `InodeStart`, below `DataStart`), and the slots of two different inodes never overlap — for
    every disk size and every pair of inode numbers. -/
theorem inode_slots_do_not_overlap (fs : FsSuper) (i j : Nat) (hi : i < fs.NInode) (h : i ≠ j) :
    (slot fs i).2 + INODESZ ≤ BlockSize ∧
    (fs.InodeStart ≤ (slot fs i).1 ∧ (slot fs i).1 < fs.DataStart) ∧
    ((slot fs i).1 ≠ (slot fs j).1 ∨ (slot fs i).2 + INODESZ ≤ (slot fs j).2 ∨ (slot fs j).2 + INODESZ ≤ (slot fs i).2) :=
  ⟨slot_in_block fs i, slot_in_table fs i hi, slots_disjoint fs i j h⟩

/-- `WriteInode` of one inode: that inode reads back (through the codec) as what was written,
    EVERY OTHER inode reads as before, and no block outside the table — no data block, no bitmap
    block, no log block — changes a byte. -/
theorem writing_one_inode_changes_no_other (d : Disk) (fs : FsSuper) (i : Nat) (x : GoNfsd.Model.Codec.DInode) (hx : x.wf)
    (hi : i < fs.NInode) :
    decodeInode (readSlot (writeInode d fs i (encodeInode x)) fs i) = x ∧
    (∀ j, j ≠ i → readSlot (writeInode d fs i (encodeInode x)) fs j = readSlot d fs j) ∧
    (∀ b o, (b < fs.InodeStart ∨ fs.DataStart ≤ b) → writeInode d fs i (encodeInode x) b o = d b o) := by
  have size := GoNfsd.Props.C10.inode_encoding_size x hx
  exact ⟨by rw [read_own d fs i _ size, GoNfsd.Props.C10.inode_roundtrip x hx],
    fun j hj => read_other d fs i j _ size (Ne.symm hj), fun b o hb => write_leaves_other_blocks d fs i _ hi b hb o⟩

end inodetable

/-- "Every block in use is marked in use" also under concurrency: bitmap updates reach the journal
    as single bits, each owned by the transaction that holds the number (regenerated table; see
    `Props/C10.journal_objects_have_the_granularity_of_their_locks`). -/
theorem bitmap_updates_are_single_bits :
    ∀ e ∈ GoNfsd.Gen.Skeleton.journalObjects, e.1 = "alloctxn.WriteBits" → e.2.1 = "OverWrite" ∧ e.2.2 = "1" :=
  GoNfsd.Model.Skeleton.writeBits_single_bits

example : ("alloctxn.WriteBits", "OverWrite", "1") ∈ GoNfsd.Gen.Skeleton.journalObjects :=
  GoNfsd.Model.Skeleton.writeBits_in_journalObjects

/-- "NAMES ARE UNIQUE" AT THE LEVEL OF THE DIRECTORY CODE: the nfs layer checks the absence of a name in the name
    CACHE only (`dir.LookupName`), never on disk; because the cache is the directory in every reachable state (model
    M8e, `Props/C10.name_cache_is_the_directory`), the slots on disk never hold a name twice — for every history of
    lookups, insertions, removals, evictions, restarts and aborted transactions.  (Seeded changes C04l / C10k bound the
    scan that rebuilds the cache: the cache misses entries and a second entry of the same name is written.) -/
theorem names_stay_unique_with_the_cache_as_the_only_check (ops : List GoNfsd.Model.NameCache.Op) :
    (GoNfsd.Model.Fs.liveNames (GoNfsd.Model.NameCache.run {} ops).cur.slots).Nodup :=
  (GoNfsd.Model.NameCache.run_inv {} ops GoNfsd.Model.NameCache.empty_inv).cur.uniq

/-- a new name never overwrites a live entry: the slot `AddNameDir` picks is free or the end, whatever the hint -/
theorem a_new_name_overwrites_no_entry (slots : List GoNfsd.Model.Fs.Slot) (lastoff : Nat) (sl : GoNfsd.Model.Fs.Slot)
    (h : slots[GoNfsd.Model.NameCache.addSlot slots lastoff]? = some sl) : sl.inum = 0 := by
  have := GoNfsd.Model.NameCache.addSlot_ok slots lastoff
  unfold GoNfsd.Model.Fs.slotOk at this
  simp only [Bool.or_eq_true, decide_eq_true_eq] at this
  rcases this with this | this
  · exact absurd (this ▸ (List.getElem?_eq_some_iff.mp h).1) (Nat.lt_irrefl _)
  · rw [h] at this; simpa using this

end GoNfsd.Props.C04
