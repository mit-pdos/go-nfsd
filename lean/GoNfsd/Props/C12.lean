/-
C12 — bytes never written read as zero; old data is never exposed.

Byte-level theorems about the reference model M6 (a file's content is the log of its writes
and truncations; the `seq` correspondence compares every READ of the server with it,
including reads of holes, of gaps left by writing or truncating beyond the end, of regions
re-exposed by growing after a shrink, and of blocks recycled from deleted files).
The block-level half is on the block-map model M7: every block freed by a truncation is all
zeros afterwards (`freed_blocks_are_all_zeros`), and truncation writes nothing but zeros.
-/
import GoNfsd.Gen.Skeleton
import GoNfsd.Lemmas.FsStep
import GoNfsd.Lemmas.FilesBridge
import GoNfsd.Lemmas.AllocTxn
import GoNfsd.Lemmas.SlotUses

namespace GoNfsd.Props.C12
open GoNfsd.Model.Fs GoNfsd.Gen.Consts

def writtenAt : List Ext → Nat → Bool
  | [], _ => false
  | .write off data :: rest, i => (decide (off ≤ i ∧ i < off + data.size)) || writtenAt rest i
  | .trunc n :: rest, i => if n ≤ i then false else writtenAt rest i

/-- A byte that was never written (since the file was last cut at or below it) reads as zero:
    holes, gaps, re-exposed regions — for every history of writes and truncations. -/
theorem never_written_zero (c : List Ext) (i : Nat) (h : writtenAt c i = false) : byteAt c i = 0 := by
  induction c with
  | nil => rfl
  | cons e rest ih =>
    cases e with
    | write off data =>
      simp only [writtenAt, Bool.or_eq_false_iff, decide_eq_false_iff_not] at h
      simp only [byteAt, h.1, if_false]
      exact ih h.2
    | trunc n =>
      simp only [writtenAt] at h
      simp only [byteAt]
      split
      · rfl
      · rename_i hn; simp only [hn, if_false] at h; exact ih h

/-- A byte that was written reads as the data of the latest write covering it. -/
theorem read_last_written (off : Nat) (data : Array UInt8) (c : List Ext) (i : Nat)
    (h : off ≤ i ∧ i < off + data.size) : byteAt (.write off data :: c) i = data.getD (i - off) 0 := by
  simp [byteAt, h]

/-- A write leaves every byte outside its range as it was. -/
theorem write_frame (off : Nat) (data : Array UInt8) (c : List Ext) (i : Nat)
    (h : ¬ (off ≤ i ∧ i < off + data.size)) : byteAt (.write off data :: c) i = byteAt c i := by
  simp [byteAt, h]

/-- Shrinking to ANY size (aligned or not) and growing again exposes zeros: whatever is done
    afterwards short of writing there, every byte at or beyond the cut reads as zero. -/
theorem shrink_then_grow_zero (ino : Inode) (n m i : Nat) (hn : n < ino.size) (hi : n ≤ i) :
    byteAt (resize (resize ino n) m).content i = 0 := by
  simp only [resize, hn, if_true]
  split
  · rename_i hm
    have : m ≤ i := by omega
    simp [byteAt, this]
  · simp [byteAt, hi]

/-- What READ returns is the content, byte for byte. -/
theorem read_bytes_spec (c : List Ext) (off n k : Nat) (hk : k < n) :
    (readBytes c off n)[k]? = some (byteAt c (off + k)) := by
  simp [readBytes, hk]

/-- A freshly created file is empty: all of its bytes read as zero whatever the disk blocks it
    will get held before. -/
theorem created_file_empty (s : FS) (c : Choice) (dfh name : Bytes) (s' : FS) (fh : Bytes) (a : Attr)
    (h : doCreate s c dfh name NF3REG #[] = (s', .handle fh a)) (i : Nat) :
    byteAt (s'.get c.inum).content i = 0 ∧ a.size = 0 := by
  obtain ⟨dino, d', ⟨_, _, hne, _⟩, heq⟩ := (doCreate_cases s c dfh name NF3REG #[]).ok (by rw [h]; rfl)
  cases h.symm.trans heq
  have hf : freshInode NF3REG ((s.get c.inum).gen + 1) c.inum dino #[] =
      { kind := NF3REG, gen := (s.get c.inum).gen + 1, size := 0 } := by
    unfold freshInode; simp [NF3REG, NF3DIR, NF3LNK]
  simp [get_set, hne.symm, hf, byteAt, attrOf]

theorem get_ite {s : FS} {j : Nat} {p : Prop} [Decidable p] {a b : FS × Reply}
    (ha : a.1.get j = s.get j) (hb : b.1.get j = s.get j) : (if p then a else b).1.get j = s.get j := by
  split <;> assumption

/-- WRITE and SETATTR change the content of the file they name and of no other inode: no file
    ever shows bytes written to a different file. -/
theorem write_touches_one_file (s : FS) (c : Choice) (fh : Bytes) (off count stable : Nat)
    (data : Array UInt8) (i j : Nat) (hr : resolve s fh = some i) (hj : j ≠ i) :
    (step s (.write fh off count stable data) c).1.get j = s.get j := by
  unfold step
  simp only [hr]
  exact get_ite rfl (get_ite rfl (get_ite rfl (get_ite rfl (get_ite rfl (get_set_ne s i j _ hj)))))

theorem setattr_touches_one_file (s : FS) (c : Choice) (fh : Bytes) (sz : Option Nat) (t1 t2 : TimeHow)
    (i j : Nat) (hr : resolve s fh = some i) (hj : j ≠ i) :
    (step s (.setattr fh sz t1 t2) c).1.get j = s.get j := by
  unfold step
  simp only [hr]
  exact get_ite rfl (get_ite rfl (get_set_ne s i j _ hj))

/-- Non-vacuity: the repaired defect's input — write 8192 bytes, cut to 100, grow to 4096 —
    reads zero at position 2000 in the model. -/
example : byteAt (resize (resize { kind := 1, size := 8192, content := [.write 0 (Array.replicate 8192 171)] } 100) 4096).content 2000 = 0 := by
  decide

/-! ### at the block level (model M7): a block changes owner only through zero -/

open GoNfsd.Model.BlockMap in
/-- OLD DATA IS NEVER EXPOSED THROUGH THE ALLOCATOR: every block the run of `Shrink` passes to
    `FreeBlock` — data blocks and index blocks, whatever range the truncation covers — is all
    zeros when the run ends (it was zeroed when it was freed and nothing writes to it afterwards),
    so the next owner of the block, whoever it is, starts from zeros: exactly what the hypothesis
    `WFB.fresh` of the mapping theorems asks of a block the allocator hands out. -/
theorem freed_blocks_are_all_zeros (s : S) (blks : List Nat) (T N b : Nat)
    (h : b ∈ (shrinkTo s blks T N).1.freed) (hnew : b ∉ s.freed) :
    ∀ x, (shrinkTo s blks T N).1.st b x = 0 := by
  rcases (shrinkTo_zeroes T N s blks).freed b h with h1 | h1
  · exact absurd h1 hnew
  · exact h1

open GoNfsd.Model.BlockMap in
/-- … and a block that is still mapped afterwards keeps every cell that is not cleared: the run
    only ever ZEROES cells (it never writes anything else anywhere). -/
theorem truncation_only_zeroes (s : S) (blks : List Nat) (T N y x : Nat) :
    (shrinkTo s blks T N).1.st y x = s.st y x ∨ (shrinkTo s blks T N).1.st y x = 0 :=
  (shrinkTo_zeroes T N s blks).cells y x

/-! ### at the byte level of the blocks (model M7d): the data path of Write / Read / Resize

A file as disk blocks: a map from file blocks to disk blocks (the pointer tree of M7 read at its
data positions: `pointer_tree_step_is_the_mapping_step`), the bytes of the blocks, a size.  The
theorems of this section say that this file shows, byte for byte, what the content log of the
reference model M6 says — whose READ replies the correspondence compares with the server. -/
section blocks
open GoNfsd.Model.FileData

/-- A WRITE shows exactly its bytes and moves no other byte — not in the blocks it fills, not in
    the blocks it maps (they come zeroed from the allocator), not in the gap it may leave behind
    the old end of the file — for every offset, length, block layout and set of holes. -/
theorem block_level_write_shows_exactly_its_bytes (f : F) (fresh : Nat → Nat) (off : Nat)
    (bytes : List UInt8) (h : Inv f) (hf : FreshOK f fresh) (p : Nat) :
    (f.write fresh off bytes).byte p =
      if off ≤ p ∧ p < off + bytes.length then bytes.getD (p - off) 0 else f.byte p :=
  write_byte f fresh off bytes h hf p

/-- A truncation cuts the file off — also INSIDE the last block, whose rest is cleared — and growing
    a file exposes zeros: never what the blocks held before. -/
theorem block_level_resize_cuts_and_exposes_zeros (f : F) (n : Nat) (h : Inv f) (p : Nat) :
    (f.resize n).byte p = if n ≤ p then 0 else f.byte p := resize_byte f n h p

/-- A READ over holes maps them (the code allocates in `Read`): what it maps is all zeros, so no
    byte of the file changes — the READ, and every later one, sees zeros there. -/
theorem block_level_hole_filling_changes_no_byte (f : F) (fresh : Nat → Nat) (i : Nat) (h : Inv f)
    (hf : FreshOK f fresh) :
    Inv (f.ensure i (fresh i)) ∧ ∀ p, (f.ensure i (fresh i)).byte p = f.byte p := by
  have hinv : Inv (f.ensure i (fresh i)) := ⟨ensure_inj f fresh i h.inj hf, fun p hp => by
    rw [ensure_cell f fresh i hf p]; exact h.tail p (ensure_size f _ _ ▸ hp)⟩
  exact ⟨hinv, fun p => by rw [hinv.byte, ensure_cell f fresh i hf p, h.byte]⟩

/-- ... and both keep the invariant they need (no block serves two file blocks; beyond the size
    the file's blocks hold zeros), so the statements compose over any history. -/
theorem block_level_invariant_is_kept (f : F) (h : Inv f) :
    (∀ fresh off bytes, FreshOK f fresh → Inv (f.write fresh off bytes)) ∧ (∀ n, Inv (f.resize n)) :=
  ⟨fun fresh off bytes hf => write_inv f fresh off bytes h hf, fun n => resize_inv f n h⟩

/-- REFINEMENT: after ANY history of writes and size changes the block-level file and the content
    log of the reference model agree on the size and on every byte, hence on every READ. -/
theorem block_level_file_refines_the_content_log (ops : List DOp) (hf : FreshAll F.empty ops) :
    let f := ops.foldl F.apply F.empty
    let cs := ops.foldl logApply ([], 0)
    f.size = cs.2 ∧ (∀ p, f.byte p = byteAt cs.1 p) ∧ ∀ off n, f.read off n = readBytes cs.1 off n := by
  obtain ⟨_, hr⟩ := history_refines ops F.empty ([], 0) empty_inv empty_rel hf
  exact ⟨hr.1, hr.2, fun off n => read_refines _ _ _ off n hr⟩

open GoNfsd.Model.BlockMap in
/-- The map M7d works with is M7's pointer tree: one `bmap` (any depth: direct, indirect, double
    indirect, with whatever index blocks it has to allocate on the way) is one `ensure` — the file
    block asked for gets the returned block if it was a hole, no other file block moves — and the
    injectivity M7d needs is part of M7's well-formedness. -/
theorem pointer_tree_step_is_the_mapping_step (s : S) (blks : List Nat) (bn : Nat)
    (data : Nat → Nat → UInt8) (size : Nat) (h : WFB s blks) (hbn : bn < MAXB) :
    (F.mk (mapOf (bmap s blks bn).1 (bmap s blks bn).2.1) data size).map =
      ((F.mk (mapOf s blks) data size).ensure bn (bmap s blks bn).2.2.1).map ∧
    Inj (F.mk (mapOf s blks) data size) :=
  ⟨funext fun j => (bmap_is_ensure s blks bn j h hbn).trans (ensure_map ⟨mapOf s blks, data, size⟩ bn _ j).symm, inj_of_WFB s blks data size h⟩

/-- Non-vacuity: the shape of the seeded change C12h — write, cut INSIDE the block, grow — with an
    allocator stream that satisfies the hypotheses: the re-exposed position reads zero. -/
def h12 : List DOp := [.write (fun i => 100 + i) 0 #[0xe2, 0xe2, 0xe2, 0xe2, 0xe2, 0xe2, 0xe2, 0xe2], .resize 5, .resize 20]

example : FreshAll F.empty h12 :=
  ⟨fun i _ => ⟨Nat.ne_of_gt (Nat.add_pos_left (by decide) i), fun j => Nat.ne_of_lt (Nat.add_pos_left (by decide) i), fun _ => rfl,
      fun _ _ e => Nat.add_left_cancel e⟩,
    trivial, trivial, trivial⟩

example : ((h12.foldl F.apply F.empty).byte 6, (h12.foldl F.apply F.empty).byte 3) = (0, 0xe2) := by
  decide

/-! #### many files on one disk: blocks change owner, bytes never do -/

/-- That a block the allocator hands out holds zero BYTES is not assumed: it follows from the
    invariant "a block nobody owns holds zeros" (true of a formatted disk, kept because `FreeBlock`
    clears what `Resize` gives back).  What is asked of the allocator is only what M2 proves of it:
    a real block, owned by nobody, none twice. -/
theorem fresh_blocks_hold_zero_bytes (g : G) (h : GInv g) (a : Nat) (fresh : Nat → Nat)
    (hf : GFresh g a fresh) : FreshOK (g.file a) fresh := freshOK_of_GFresh g h a fresh hf

/-- A WRITE to one file and a size change of one file (also to 0: the content of a removed file)
    change no byte of any other file — whatever blocks they take from or give back to the
    allocator — and keep the invariant. -/
theorem one_file_changes_no_byte_of_another (g : G) (a : Nat) (h : GInv g) :
    (∀ fresh off bytes, GFresh g a fresh →
      GInv (g.write a fresh off bytes) ∧
      ∀ b, b ≠ a → ∀ p, ((g.write a fresh off bytes).file b).byte p = (g.file b).byte p) ∧
    (∀ n, GInv (g.resize a n) ∧ ∀ b, b ≠ a → ∀ p, ((g.resize a n).file b).byte p = (g.file b).byte p) :=
  ⟨fun fresh off bytes hf => ⟨(gwrite_ok g a fresh off bytes h hf).1, (gwrite_ok g a fresh off bytes h hf).2.2⟩,
   fun n => ⟨(gresize_ok g a n h).1, (gresize_ok g a n h).2.2⟩⟩

/-- OLD DATA IS NEVER EXPOSED, at the level of disk blocks: on a disk shared by any number of
    files, after ANY history of writes, truncations, growths and removals of content — blocks
    freed by one file and handed to another any number of times — EVERY file shows, byte for byte
    and in every READ, exactly its own content log (the reference model M6), in which a byte never
    written reads as zero (`never_written_zero`). -/
theorem no_file_ever_shows_foreign_bytes (ops : List GOp) (hf : GFreshAll G.empty ops) (a : Nat) :
    let g := ops.foldl G.apply G.empty
    let L := ops.foldl logsApply (fun _ => ([], 0))
    (g.file a).size = (L a).2 ∧ (∀ p, (g.file a).byte p = byteAt (L a).1 p) ∧
    ∀ off n, (g.file a).read off n = readBytes (L a).1 off n := by
  obtain ⟨_, hr⟩ := ghistory_refines ops G.empty (fun _ => ([], 0)) gempty_inv gempty_rel hf
  exact ⟨(hr a).1, (hr a).2, fun off n => read_refines _ _ _ off n (hr a)⟩

open GoNfsd.Model.BlockMap in
/-- The block maps `G` works with are the pointer trees of the many-file tree model: its "one owner
    across files" is `MWF`'s (direct, indirect and double-indirect positions alike), and one `bmap`
    on the tree of a file is `ensure` on that file's map and nothing on any other file's. -/
theorem many_files_maps_are_the_pointer_trees (s : S) (roots : Nat → List Nat) (h : MWF s roots) :
    (∀ a i b j, gmaps s roots a i ≠ 0 → gmaps s roots a i = gmaps s roots b j → a = b ∧ i = j) ∧
    ∀ a bn, bn < MAXB → ∀ b j,
      gmaps (bmap s (roots a) bn).1 (setRoots roots a (bmap s (roots a) bn).2.1) b j =
        if b = a ∧ gmaps s roots a bn = 0 ∧ j = bn then (bmap s (roots a) bn).2.2.1 else gmaps s roots b j :=
  ⟨ginj_of_MWF s roots h, fun a bn hbn b j => mbmap_is_gensure s roots a bn h hbn b j⟩

open GoNfsd.Model.BlockMap in
/-- ... and the run of `Shrink` on the tree of one file is the `map` part of `resize` on that file
    (the blocks from the new block count on become holes) and nothing on any other file's map. -/
theorem truncation_on_the_pointer_trees_is_resize_on_the_maps (s : S) (roots : Nat → List Nat) (a T N : Nat)
    (h : MWF s roots) (hN : N ≤ MAXBLKS) (hemp : EmptyFrom s.st (roots a) N) (b j : Nat) :
    gmaps (shrinkTo s (roots a) T N).1 (setRoots roots a (shrinkTo s (roots a) T N).2) b j =
      if b = a ∧ T ≤ j then 0 else gmaps s roots b j :=
  mshrink_is_gunmap s roots a T N h hN hemp b j

/-- Non-vacuity: file 1 writes, is cut to nothing (its block 100 goes back, cleared), file 2 takes
    the SAME block 100 and grows over it: file 2 reads zeros where file 1's bytes were. -/
def g12 : List GOp := [.write 1 (fun i => 100 + i) 0 #[0xaa, 0xaa, 0xaa, 0xaa], .resize 1 0,
  .write 2 (fun i => 100 + i) 0 #[0xbb], .resize 2 4]

example : GFreshAll G.empty g12 := by
  have h1 : GFresh G.empty 1 (fun i => 100 + i) := fun i _ =>
    ⟨Nat.ne_of_gt (Nat.add_pos_left (by decide) i), fun b j => Nat.ne_of_lt (Nat.add_pos_left (by decide) i), fun _ _ e => Nat.add_left_cancel e⟩
  have pos : ∀ i, 0 < 100 + i := fun i => Nat.add_pos_left (by decide) i
  refine ⟨h1, trivial, fun i _ => ⟨Nat.ne_of_gt (pos i), fun b j => ?_, fun _ _ e => Nat.add_left_cancel e⟩, trivial, trivial⟩
  -- after the truncation to 0 nobody owns anything
  show ((G.empty.write 1 (fun i => 100 + i) 0 [0xaa, 0xaa, 0xaa, 0xaa]).resize 1 0).maps b j ≠ 100 + i
  by_cases hb : b = 1
  · rw [hb, (gresize_zero_frees_everything _ 1 (gwrite_ok G.empty 1 _ 0 _ gempty_inv h1).1).1 j]; exact Nat.ne_of_lt (pos i)
  · rw [show (G.resize _ 1 0).maps b = (fun _ => 0) from
      (setFile_maps_other _ 1 b _ hb).trans (setFile_maps_other _ 1 b _ hb)]
    exact Nat.ne_of_lt (pos i)

example : ((g12.foldl G.apply G.empty).maps 2 0, ((g12.foldl G.apply G.empty).file 2).read 0 4) =
    (100, [0xbb, 0, 0, 0]) := by decide +kernel

end blocks

/-! ### the inode a request reads and writes is the one its lock protects -/

/-- A request trusts the cached inode — size, block pointers — that `LockInode` fetches from the
    inode cache, and writes it back.  That object is THE inode only if it is fetched while the
    inode's lock is held: a slot fetched before the lock is granted may have been evicted by the
    time the request runs; writing the orphaned copy back resurrects a truncated file's size and
    pointers, and the file then shows whatever the next owner of those blocks writes.  The call
    order of `Acquire` / `LookupSlot` / `Release` in package fstxn is regenerated on every run
    (`Gen.Skeleton.slotUses`; model M8d in `Props/C03`). -/
theorem the_inode_written_back_is_the_locked_one :
    ∀ f ∈ GoNfsd.Gen.Skeleton.slotUses, GoNfsd.Model.Skeleton.slotCheck f = true :=
  GoNfsd.Model.Skeleton.slotUses_checked

example : GoNfsd.Model.Skeleton.slotCheck ("LockInode", [(0, "LookupSlot"), (0, "Acquire")]) = false := by decide +kernel

/-! ### when a freed block becomes available (allocation discipline, model M8b) -/

/-- A BLOCK A TRANSACTION FREES IS UNAVAILABLE UNTIL THAT TRANSACTION HAS COMMITTED: in every state reachable by any
    interleaving of allocations, frees, commits and aborts of concurrently open transactions, a number in the free list of an
    open transaction is still held in use by the in-memory allocator, and no other open transaction has it in a list.  So
    nobody is handed the block while its zero image (`FreeBlock` zeroes it in the freeing transaction's own buffers) and its
    free bit are not yet in the journal — the new owner of a block always reads zeros (`fresh_blocks_hold_zero_bytes`).  Tied
    to the code by the `atxn` correspondence, which observes allocator and bitmap also BETWEEN `PreCommit` and the
    journal's commit.  (Seeded change C12q releases the freed numbers at the end of `PreCommit`.) -/
theorem a_freed_block_is_unavailable_until_its_commit (disk : Nat → Bool) (ops : List GoNfsd.Model.AllocTxn.AOp)
    (ha : GoNfsd.Model.AllocTxn.AllowedAll (GoNfsd.Model.AllocTxn.fresh disk) ops) (t n : Nat)
    (hn : n ∈ ((GoNfsd.Model.AllocTxn.run (GoNfsd.Model.AllocTxn.fresh disk) ops).tx t).2) :
    (GoNfsd.Model.AllocTxn.run (GoNfsd.Model.AllocTxn.fresh disk) ops).mem n = true ∧
    ∀ u, u ≠ t → n ∉ ((GoNfsd.Model.AllocTxn.run (GoNfsd.Model.AllocTxn.fresh disk) ops).tx u).1 ∧
                 n ∉ ((GoNfsd.Model.AllocTxn.run (GoNfsd.Model.AllocTxn.fresh disk) ops).tx u).2 :=
  (GoNfsd.Model.AllocTxn.run_inv _ ops (GoNfsd.Model.AllocTxn.fresh_inv disk) ha).free_owned t n hn

end GoNfsd.Props.C12
