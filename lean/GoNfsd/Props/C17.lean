/-
C17 — SimpleNFS implements its specification, atomically and durably.

Theorems about the transliteration M11 of simple/ops.go + inode.go (tied to the code by the
`simple` correspondence with boundary-dense inode numbers, offsets up to 2^64-1 and counts).
The specification: a fixed set of files, each a byte string (`content`) of at most 4096 bytes.
Linearizability and crash atomicity rest on the per-inode lock held around one journal
transaction committed with wait; the journal's contract is validated on recorded disk traces
by the crash harness (C01), and crash images of this server are recovered by the `crashsimple` run.
-/
import GoNfsd.Model.Simple
import GoNfsd.Gen.Skeleton
import GoNfsd.Lemmas.Reveal

namespace GoNfsd.Props.C17
open GoNfsd.Model.Simple GoNfsd.Gen.Consts

/-- `Inode.Write` in one equation: the four refusals are one condition (offsets and counts are natural
    numbers and the block has 4096 bytes, so the overflow test never fires on its own) -/
theorem fileWrite_eq (f : SFile) (off count : Nat) (data : Bytes) :
    fileWrite f off count data =
      if count = data.length ∧ off + count ≤ BlockSize ∧ off ≤ f.size then
        some { size := max f.size (off + count), blk := f.blk.take off ++ data ++ f.blk.drop (off + count) }
      else none := by
  unfold fileWrite BlockSize
  grind

/-- WRITE is accepted exactly when the count matches the data, the write ends within 4096 bytes
    (offsets and counts are natural numbers: nothing wraps) and leaves no hole. -/
theorem write_accepts_iff (f : SFile) (off count : Nat) (data : Bytes) :
    (fileWrite f off count data).isSome ↔ (count = data.length ∧ off + count ≤ BlockSize ∧ off ≤ f.size) := by
  rw [fileWrite_eq]
  split
  · exact ⟨fun _ => ‹_›, fun _ => rfl⟩
  · exact ⟨nofun, fun h => absurd h ‹_›⟩

/-- the specification of a write: overwrite inside, extend at the end -/
def specWrite (c : Bytes) (off : Nat) (data : Bytes) : Bytes :=
  c.take off ++ data ++ c.drop (off + data.length)

theorem length_take_append (blk data : Bytes) (off : Nat) (h : off ≤ blk.length) :
    (blk.take off ++ data).length = off + data.length := by
  rw [List.length_append, List.length_take_of_le h]

theorem content_write (blk data : Bytes) (sz off : Nat) (hsz : sz ≤ blk.length) (hoff : off ≤ sz) :
    (blk.take off ++ data ++ blk.drop (off + data.length)).take (max sz (off + data.length))
      = (blk.take sz).take off ++ data ++ (blk.take sz).drop (off + data.length) := by
  have hlen := length_take_append blk data off (Nat.le_trans hoff hsz)
  rw [List.take_take, Nat.min_eq_left hoff, List.drop_take, List.take_append, hlen,
    List.take_of_length_le (hlen ▸ Nat.le_max_right ..), ← Nat.sub_eq_max_sub]

/-- An accepted WRITE keeps the file well-formed and changes its content exactly as the
    specification says: bytes before the offset kept, data placed, bytes after kept; the size is
    the larger of the old size and the end of the write. -/
theorem write_refines (f f' : SFile) (off count : Nat) (data : Bytes) (hwf : FileWF f)
    (h : fileWrite f off count data = some f') :
    FileWF f' ∧ f'.size = max f.size (off + count) ∧ content f' = specWrite (content f) off data := by
  rw [fileWrite_eq] at h
  split at h <;> cases h
  obtain ⟨rfl, hb, ho⟩ := ‹_ ∧ _›
  obtain ⟨hl, hsz⟩ := hwf
  have hsz' := hl ▸ hsz
  refine ⟨⟨?_, Nat.max_le.mpr ⟨hsz, hb⟩⟩, rfl, content_write f.blk data f.size off hsz' ho⟩
  show List.length (_ ++ _) = _
  rw [List.length_append, length_take_append _ _ _ (Nat.le_trans ho hsz'), List.length_drop, hl, Nat.add_sub_cancel' hb]

/-- READ returns exactly the bytes of the content in the requested range, clipped at the end of
    the file, and flags end-of-file exactly when the range reaches it. -/
theorem read_refines (f : SFile) (off count : Nat) (hwf : FileWF f) :
    (fileRead f off count).1 = ((content f).drop off).take count ∧
    ((fileRead f off count).2 = true ↔ off + count ≥ f.size ∨ off ≥ f.size) := by
  unfold fileRead content
  rw [List.drop_take, List.take_take]
  by_cases h : off ≥ f.size
  · rw [if_pos h]
    exact ⟨by rw [Nat.sub_eq_zero_of_le h, Nat.min_zero, List.take_zero], fun _ => .inr h, fun _ => rfl⟩
  · have e : off + (f.size - off) = f.size := Nat.add_sub_cancel' (Nat.le_of_not_le h)
    rw [if_neg h]
    by_cases hc : count > f.size - off
    · rw [if_pos hc]
      exact ⟨congrArg (List.take · _) (Nat.min_eq_right (Nat.le_of_lt hc)).symm,
        fun _ => .inl (e ▸ Nat.add_le_add_left (Nat.le_of_lt hc) off), fun _ => decide_eq_true (Nat.le_of_eq e.symm)⟩
    · rw [if_neg hc]
      exact ⟨congrArg (List.take · _) (Nat.min_eq_left (Nat.le_of_not_lt hc)).symm,
        fun hd => .inl (of_decide_eq_true hd), fun ho => decide_eq_true (ho.resolve_right h)⟩

theorem content_length (f : SFile) (hwf : FileWF f) : (content f).length = f.size :=
  List.length_take_of_le (hwf.1 ▸ hwf.2)

/-- SETATTR: sizes beyond 4096 are refused; a smaller size keeps a prefix; a larger one appends
    zeros — so no byte from before an earlier shrink is ever exposed. -/
theorem resize_refines (f : SFile) (n : Nat) (hwf : FileWF f) :
    (n > BlockSize → fileResize f n = none) ∧
    (n ≤ BlockSize → ∃ f', fileResize f n = some f' ∧ FileWF f' ∧ f'.size = n ∧
      content f' = (content f).take n ++ List.replicate (n - f.size) 0) := by
  have hcl := content_length f hwf
  refine ⟨fun hn => if_pos hn, fun hn => ?_⟩
  fun_cases fileResize f n
  case case1 h => exact absurd h (Nat.not_lt.mpr hn)
  case case2 _ hg =>
    -- growing is a WRITE of zeros at the end
    have e : f.size + (n - f.size) = n := Nat.add_sub_cancel' (Nat.le_of_lt hg)
    have hacc := (write_accepts_iff f f.size (n - f.size) (List.replicate (n - f.size) 0)).mpr
      ⟨List.length_replicate.symm, Nat.le_trans (Nat.le_of_eq e) hn, Nat.le_refl _⟩
    obtain ⟨f', hf'⟩ := Option.isSome_iff_exists.mp hacc
    obtain ⟨hw1, hw2, hw3⟩ := write_refines f f' _ _ _ hwf hf'
    refine ⟨f', hf', hw1, by rw [hw2, e]; exact Nat.max_eq_right (Nat.le_of_lt hg), ?_⟩
    have hcn : (content f).length ≤ n := Nat.le_trans (Nat.le_of_eq hcl) (Nat.le_of_lt hg)
    rw [hw3, specWrite, List.take_of_length_le (Nat.le_of_eq hcl), List.take_of_length_le hcn,
      List.drop_eq_nil_of_le (Nat.le_trans (Nat.le_of_eq hcl) (Nat.le_add_right ..)), List.append_nil]
  case case3 _ hg =>
    refine ⟨_, rfl, ⟨hwf.1, hn⟩, rfl, ?_⟩
    show List.take n f.blk = _
    rw [content, List.take_take, Nat.min_eq_left (Nat.le_of_not_lt hg), Nat.sub_eq_zero_of_le (Nat.le_of_not_lt hg)]
    exact (List.append_nil _).symm

/-- Every request for an inode number outside 2..nInode-1 (0, the root for data requests,
    anything larger, handles shorter than 8 bytes) is refused and changes nothing. -/
theorem invalid_inum_refused (s : SState) (fh : Bytes) (hv : validInum (fh2ino fh) = false)
    (off count : Nat) (data : Bytes) (sz : Option Nat) :
    step s (.read fh off count) = (s, .status .inval) ∧ step s (.write fh off count data) = (s, .status .inval) ∧
    step s (.setattr fh sz) = (s, .status .inval) ∧ step s (.commit fh) = (s, .status .inval) := by
  dsimp only [step]
  rw [hv]
  exact ⟨rfl, rfl, rfl, rfl⟩

theorem step_files (s : SState) (op : SOp) :
    (step s op).1 = s ∨ ∃ fh f', (step s op).1 = s.set (fh2ino fh) f' ∧
      ((∃ n, op = .setattr fh (some n) ∧ fileResize (s.files (fh2ino fh)) n = some f') ∨
        ∃ off count data, op = .write fh off count data ∧ fileWrite (s.files (fh2ino fh)) off count data = some f') := by
  -- leaves 6 and 11 of `step`: a SETATTR of the size and a WRITE that the file accepts; every other leaf returns `s`
  fun_cases step s op
  case case6 fh i _ n f' hr => exact .inr ⟨fh, f', rfl, .inl ⟨n, rfl, hr⟩⟩
  case case11 fh off count data i _ f' hw => exact .inr ⟨fh, f', rfl, .inr ⟨off, count, data, rfl, hw⟩⟩
  all_goals exact .inl rfl

/-- A request changes at most the file its handle names. -/
theorem other_files_untouched (s : SState) (op : SOp) (j : Nat)
    (h : match op with
      | .setattr fh _ => j ≠ fh2ino fh
      | .write fh _ _ _ => j ≠ fh2ino fh
      | _ => True) : (step s op).1.files j = s.files j := by
  obtain e | ⟨fh, f', e, ⟨n, rfl, _⟩ | ⟨off, count, data, rfl, _⟩⟩ := step_files s op
  · rw [e]
  · rw [e]; exact if_neg h
  · rw [e]; exact if_neg h

/-- Well-formedness (the data block has 4096 bytes, the size is at most 4096) is an invariant of
    every request sequence, so the refinement lemmas apply in every reachable state. -/
theorem step_wf (s : SState) (op : SOp) (h : ∀ i, FileWF (s.files i)) : ∀ i, FileWF ((step s op).1.files i) := by
  intro i
  obtain e | ⟨fh, f', e, hf'⟩ := step_files s op
  · rw [e]; exact h i
  · rw [e]
    show FileWF (if i = fh2ino fh then f' else s.files i)
    split
    · obtain ⟨n, _, hr⟩ | ⟨off, count, data, _, hw⟩ := hf'
      · by_cases hn : n ≤ BlockSize
        · obtain ⟨f'', hf'', hw, _⟩ := (resize_refines _ n (h _)).2 hn
          exact Option.some.inj (hr.symm.trans hf'') ▸ hw
        · cases hr.symm.trans ((resize_refines _ n (h _)).1 (Nat.lt_of_not_le hn))
      · exact (write_refines _ f' off count data (h _) hw).1
    · exact h i

theorem init_wf : ∀ i, FileWF (init.files i) :=
  fun _ => ⟨List.length_replicate, Nat.zero_le _⟩

/-- Each mutating request is ONE journal transaction on the objects of one file: its 128-byte
    inode slot in block LOGSIZE and its data block LOGSIZE+1+i; the objects of different files
    are disjoint, and all inode slots fit in the inode block. -/
theorem objects_disjoint (i j : Nat) (hi : i < nInode) (hj : j < nInode) (hij : i ≠ j) :
    LOGSIZE + 1 + i ≠ LOGSIZE + 1 + j ∧ LOGSIZE + 1 + i ≠ LOGSIZE ∧
    (i * INODESZ + INODESZ ≤ j * INODESZ ∨ j * INODESZ + INODESZ ≤ i * INODESZ) ∧
    i * INODESZ + INODESZ ≤ BlockSize := by
  have slot : ∀ a b, a < b → a * INODESZ + INODESZ ≤ b * INODESZ := fun a b h =>
    Nat.succ_mul a _ ▸ Nat.mul_le_mul_right _ h
  exact ⟨fun e => hij (Nat.add_left_cancel e), Nat.ne_of_gt (Nat.lt_of_lt_of_le (Nat.lt_succ_self _) (Nat.le_add_right ..)),
    (Nat.lt_or_gt_of_ne hij).imp (slot i j) (slot j i), slot i nInode hi⟩

/-- Non-vacuity: a WRITE of three bytes to file 3 of the initial state succeeds. -/
example : (step init (.write [3, 0, 0, 0, 0, 0, 0, 0] 0 3 [1, 2, 3])).2 = .write 3 := by decide

/-! ### acknowledged replies reveal only what is durable -/

/-- Every handler of simple/ops.go that touches an inode holds that inode's lock from before its
    body until after the body's commit, and every commit waits for the disk (table regenerated from
    simple/ops.go on every run).  This is the discipline of model M14 (`Model/Reveal`). -/
theorem simple_holds_the_lock_across_the_waiting_commit :
    ∀ f ∈ GoNfsd.Gen.Skeleton.simpleLockUses, GoNfsd.Model.Skeleton.simpleCheck f = true := by decide +kernel

/-- the rule bites: a body called without the lock (the seeded change C17k: GETATTR), a commit that
    does not wait, and a lock given back before the body are refused; the table is not empty -/
example : GoNfsd.Model.Skeleton.simpleCheck ("NFSPROC3_GETATTR", false, [(2, "NFSPROC3_GETATTR_internal")]) = false := by decide +kernel

example : GoNfsd.Model.Skeleton.simpleCheck ("NFSPROC3_WRITE_internal", true, [(3, "false")]) = false := by decide +kernel

example : GoNfsd.Model.Skeleton.simpleCheck ("NFSPROC3_WRITE", false, [(0, ""), (1, ""), (2, "NFSPROC3_WRITE_internal")]) = false := by decide +kernel

example : ("NFSPROC3_GETATTR", false, [(0, ""), (2, "NFSPROC3_GETATTR_internal"), (1, "")]) ∈ GoNfsd.Gen.Skeleton.simpleLockUses := by decide +kernel

/-- why: under that discipline, in every state reachable by any interleaving of any requests (with
    the journal's logger running in the background), what a request reads under the lock is what
    the server has after a crash at that moment — a GETATTR or READ reply never reports a WRITE or
    SETATTR that a crash can still undo (simple has no unstable writes). -/
theorem simple_replies_reveal_only_durable_state (ops : List GoNfsd.Model.Reveal.Op) (s : GoNfsd.Model.Reveal.St) (t k : Nat)
    (hd : GoNfsd.Model.Reveal.Disciplined GoNfsd.Model.Reveal.empty ops)
    (hr : GoNfsd.Model.Reveal.run GoNfsd.Model.Reveal.empty ops = some s)
    (hl : s.lock k = some t) (hp : ∀ c ∈ s.pend, c.1 ≠ t) (hu : ∀ c ∈ s.pend, c.2.1 = false) :
    s.read k = s.recovered k :=
  GoNfsd.Model.Reveal.read_is_recovered_of_stable ops s t k hd hr hl hp hu

end GoNfsd.Props.C17
