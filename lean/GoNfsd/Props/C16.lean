/-
C16 — wire format and dispatch conform to RFC 1813.

Property theorems only.  `Gen.Xdr.types` and `Gen.Dispatch.procs` are REGENERATED from
/repo/nfstypes/nfs_xdr.go, nfs_types.go and cmd/*/main.go on every run; `Spec.Rfc1813` is the
committed transcription of the RFC's XDR definitions; `Model.Xdr` is the generic codec model
of go-rpcgen's xdr primitives (tied to the real `Xdr` methods by the `xdr` correspondence).
-/
import GoNfsd.Lemmas.XdrRoundtrip
import GoNfsd.Lemmas.XdrCanon
import GoNfsd.Gen.Xdr
import GoNfsd.Gen.Dispatch
import GoNfsd.Spec.Rfc1813

namespace GoNfsd.Props.C16
open GoNfsd.Model.Xdr

/-- Decoding what was encoded gives back the same value and leaves the rest of the message
    untouched — for EVERY type descriptor (hence every generated one), every value the encoder
    accepts and every continuation of the byte stream. -/
theorem roundtrip (t : Ty) (v : Val) (bs rest : List UInt8) (h : enc t v = some bs) :
    dec t (bs ++ rest) = some (v, rest) := dec_enc t v bs rest h

/-- The same for a whole message (no continuation). -/
theorem roundtrip_message (t : Ty) (v : Val) (bs : List UInt8) (h : enc t v = some bs) :
    decode t bs = some v := by
  rw [decode, dec_enc_nil t v bs h]; rfl

/-- In particular for every argument and result type of the regenerated table. -/
theorem roundtrip_generated :
    ∀ p ∈ GoNfsd.Gen.Xdr.types, ∀ v bs rest, enc p.2 v = some bs → dec p.2 (bs ++ rest) = some (v, rest) :=
  fun p _ v bs rest h => dec_enc p.2 v bs rest h

/-- The descriptors extracted from the generated Go code are exactly the RFC's: every type,
    field order, union arm, discriminant value, default arm and length bound. -/
theorem generated_eq_rfc : GoNfsd.Gen.Xdr.types = GoNfsd.Spec.Rfc1813.types := by rfl

/-- ... and the fields are (de)serialised in the RFC's order, field by field (this is what
    distinguishes two adjacent fields of the same wire type). -/
theorem generated_fields_eq_rfc : GoNfsd.Gen.Xdr.fields = GoNfsd.Spec.Rfc1813.fields := rfl

/-- Every constant of the generated types file — all status codes (nfsstat3, mountstat3), file
    types, the stable_how / createmode3 / time_how values, sizes, program, version and procedure
    numbers, access and property bits — has the value RFC 1813 gives it. -/
theorem constants_eq_rfc : GoNfsd.Gen.Xdr.consts = GoNfsd.Spec.Rfc1813.consts := rfl

/-- Every procedure number of both programs reaches the handler of that procedure, decodes the
    RFC's argument type and encodes the RFC's result type. -/
theorem dispatch_eq_rfc : GoNfsd.Gen.Dispatch.procs = GoNfsd.Spec.Rfc1813.procs := rfl

/-- Both servers register the MOUNT and the NFS table. -/
theorem registers_both :
    "NFS_PROGRAM_NFS_V3_regs" ∈ GoNfsd.Gen.Dispatch.goNfsdRegisters ∧
    "MOUNT_PROGRAM_MOUNT_V3_regs" ∈ GoNfsd.Gen.Dispatch.goNfsdRegisters ∧
    "NFS_PROGRAM_NFS_V3_regs" ∈ GoNfsd.Gen.Dispatch.simpleNfsdRegisters ∧
    "MOUNT_PROGRAM_MOUNT_V3_regs" ∈ GoNfsd.Gen.Dispatch.simpleNfsdRegisters := by
  simp [GoNfsd.Gen.Dispatch.goNfsdRegisters, GoNfsd.Gen.Dispatch.simpleNfsdRegisters]

/-- A length word above the declared bound is refused (strings and variable opaques). -/
theorem oversize_rejected (m : Nat) (w rest : List UInt8) (hw : w.length = 4) (h : m < beNat w) :
    dec (.str (some m)) (w ++ rest) = none ∧ dec (.opaqueVar (some m)) (w ++ rest) = none := by
  have hn : decBytes (some m) (w ++ rest) = none := by
    unfold decBytes
    rw [takeN_append w rest hw]
    exact if_neg fun hok => Nat.not_le.mpr h (of_decide_eq_true (Bool.and_eq_true_iff.mp hok).2)
  exact ⟨hn, hn⟩

/-- A message that ends inside a word is refused. -/
theorem short_word_rejected (bs : List UInt8) (h : bs.length < 4) :
    dec .u32 bs = none ∧ dec .bool bs = none ∧ dec (.str none) bs = none ∧
    dec (.opaqueVar none) bs = none ∧ (∀ e, dec (.chain e) bs = none) := by
  have ht : takeN 4 bs = none := if_pos h
  have hb : decBytes none bs = none := by unfold decBytes; rw [ht]
  refine ⟨?_, ?_, hb, hb, fun e => ?_⟩ <;> unfold dec
  · rw [ht]; rfl
  · rw [ht]; rfl
  · cases bs.length with
    | zero => rfl
    | succ n => unfold decChainWith; rw [ht]; rfl

/-- A string or opaque whose announced length exceeds the bytes present is refused. -/
theorem truncated_body_rejected (max : Option Nat) (w body : List UInt8) (hw : w.length = 4)
    (h : body.length < beNat w) :
    dec (.str max) (w ++ body) = none ∧ dec (.opaqueVar max) (w ++ body) = none := by
  have hn : decBytes max (w ++ body) = none := by
    unfold decBytes
    rw [takeN_append w body hw]; dsimp only
    rw [show takeN (beNat w) body = none from if_pos h]
    exact ite_self _
  exact ⟨hn, hn⟩

/-- The decoder reads from the front and never looks past what it consumes: a successful decode
    is the same decode on every extension of the input. -/
theorem decode_ignores_what_follows (t : Ty) (bs : List UInt8) (v : Val) (r ext : List UInt8)
    (h : dec t bs = some (v, r)) : dec t (bs ++ ext) = some (v, r ++ ext) := dec_ext t bs v r ext h

/-- A message cut short ANYWHERE is refused: no proper prefix of an encoding decodes — inside a
    word, a string, its padding, a union arm or an entry list, for every type descriptor (the
    truncation theorems above are instances at the leaves). -/
theorem truncated_rejected (t : Ty) (v : Val) (bs p q : List UInt8) (h : enc t v = some bs)
    (hp : bs = p ++ q) (hq : q ≠ []) : dec t p = none :=
  no_proper_prefix_decodes t v bs p q (dec_enc_nil t v bs h) hp hq

/-- Whatever the decoder accepts, the encoder accepts back (decoded values respect every bound
    of their type), the re-encoding is exactly as long as what was consumed, and it decodes to
    the same value: the freedom the decoder leaves a sender (a boolean as any non-zero word,
    padding bytes of any value, findings of this property) never changes size or meaning. -/
theorem decoded_values_reencode (t : Ty) (bs : List UInt8) (v : Val) (r : List UInt8)
    (h : dec t bs = some (v, r)) :
    ∃ c, enc t v = some c ∧ c.length + r.length = bs.length ∧ dec t (c ++ r) = some (v, r) := by
  obtain ⟨c, hc, hl⟩ := (dec_reencodes t bs v r h).same_length
  exact ⟨c, hc, hl, dec_enc t v c r hc⟩

/-- ... and on what the encoder itself wrote, decode-then-encode is the identity on bytes. -/
theorem encode_decode_encode (t : Ty) (v : Val) (bs : List UInt8) (h : enc t v = some bs) :
    ((dec t bs).bind fun p => enc t p.1) = some bs := by
  rw [dec_enc_nil t v bs h]; exact h

/-- ON CANONICAL INPUT THE RE-ENCODING IS THE INPUT, byte for byte: if every boolean and every
    presence flag the decoder reads is 0 or 1 and every padding byte is zero (`canon`, a syntactic
    test that follows the decoder through the input), then encoding the decoded value gives back
    exactly the bytes that were consumed.  So the decoder's leniency is those two freedoms and
    nothing else: two accepted inputs that decode to the same value differ only in the spelling of
    booleans and in padding. -/
theorem canonical_input_reencodes_to_itself (t : Ty) (bs : List UInt8) (v : Val) (r : List UInt8)
    (h : dec t bs = some (v, r)) (hc : canon t bs = true) :
    ∃ c, enc t v = some c ∧ bs = c ++ r := (dec_reencodes t bs v r h).same_bytes hc

/-- what the encoder writes is canonical input (the premise above is met by every encoder output) -/
example : canon (.struct [.bool, .str (some 8), .chain [.u32]])
    [0, 0, 0, 1, 0, 0, 0, 1, 65, 0, 0, 0, 0, 0, 0, 1, 0, 0, 0, 9, 0, 0, 0, 0] = true := by decide +kernel

example : ((dec (.struct [.bool, .str (some 8), .chain [.u32]])
      [0, 0, 0, 1, 0, 0, 0, 1, 65, 0, 0, 0, 0, 0, 0, 1, 0, 0, 0, 9, 0, 0, 0, 0]).bind
      fun p => enc (.struct [.bool, .str (some 8), .chain [.u32]]) p.1) =
    some [0, 0, 0, 1, 0, 0, 0, 1, 65, 0, 0, 0, 0, 0, 0, 1, 0, 0, 0, 9, 0, 0, 0, 0] := by decide +kernel

/-- and the test does refuse the two freedoms: a boolean written as 7, a padding byte 9, a presence flag 2 -/
example : canon (.struct [.bool, .str (some 8)]) [0, 0, 0, 7, 0, 0, 0, 1, 65, 0, 0, 0] = false := by decide +kernel

example : canon (.struct [.bool, .str (some 8)]) [0, 0, 0, 1, 0, 0, 0, 1, 65, 0, 9, 0] = false := by decide +kernel

example : canon (.chain [.u32]) [0, 0, 0, 2, 0, 0, 0, 9, 0, 0, 0, 0] = false := by decide +kernel

/-- a boolean written as 7 and padding bytes 9 9 9 are accepted; re-encoding normalises them and
    keeps the length -/
example : ((dec (.struct [.bool, .str (some 8)]) [0, 0, 0, 7, 0, 0, 0, 1, 65, 9, 9, 9]).bind
      fun p => enc (.struct [.bool, .str (some 8)]) p.1) =
    some [0, 0, 0, 1, 0, 0, 0, 1, 65, 0, 0, 0] := by decide +kernel

example : dec (.struct [.bool, .str (some 8)]) [0, 0, 0, 7, 0, 0, 0, 1, 65, 9, 9] = none := by decide +kernel

/-! Non-vacuity: a concrete GETATTR3args value (16-byte handle) encodes, so the hypothesis of
    `roundtrip` is satisfiable, and its encoding is the RFC layout. -/
example : enc (.struct [.struct [.opaqueVar (some 64)]])
      (.struct [.struct [.bytes [1, 0, 0, 0, 0, 0, 0, 0, 1, 0, 0, 0, 0, 0, 0, 0]]])
    = some [0, 0, 0, 16, 1, 0, 0, 0, 0, 0, 0, 0, 1, 0, 0, 0, 0, 0, 0, 0] := by decide +kernel

example : (GoNfsd.Gen.Xdr.types.lookup "getattr3args") = some (.struct [.struct [.opaqueVar (some 64)]]) := by
  rfl

end GoNfsd.Props.C16
