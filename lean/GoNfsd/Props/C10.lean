/-
C10 — the running server and a restart from its disk are indistinguishable.

Three ingredients, each a theorem: (1) the on-disk codecs are bijective on well-formed values
(what is written is what is read back, and re-encoding what was read changes no byte);
(2) the inode-cache protocol keeps every cached inode equal to the logical disk at every
quiescent point, for every sequence of loads, in-place modifications, evictions, commits and
aborts; (3) hence a server rebuilt from the disk reads the same value for every inode.
Tie: `codec` correspondence for (1); for (2)/(3) the `-c10` oracle of the seq harness compares,
at quiescent points, every cached inode / name cache / allocator with the logical disk, and
complete API dumps of the running server with a cleanly restarted one and with one recovered
from a copy of the raw image.
-/
import GoNfsd.Gen.Skeleton
import GoNfsd.Lemmas.Codec
import GoNfsd.Lemmas.Txn
import GoNfsd.Lemmas.AllocTxn
import GoNfsd.Lemmas.Cache
import GoNfsd.Lemmas.NameCachePage

namespace GoNfsd.Props.C10
open GoNfsd.Model.Codec GoNfsd.Gen.Consts

/-- Decoding an encoded inode gives the inode back, for every well-formed inode. -/
theorem inode_roundtrip (i : DInode) (h : i.wf) : decodeInode (encodeInode i) = i := by
  obtain ⟨h1, h2, h3, h4, h5, h6, h7, h8, h9, h10, h11⟩ := h
  have hb := decodeInts_flatMap i.blks [] h11
  rw [h10, List.append_nil] at hb
  unfold decodeInode encodeInode
  simp only [List.append_assoc]
  -- the bounds of `wf` are the field widths: 2 ^ 32 = 256 ^ 4, 2 ^ 64 = 256 ^ 8
  rw [getLe_le 4 _ _ h1, getLe_le 4 _ _ h2, getLe_le 8 _ _ h3, getLe_le 8 _ _ h4, getLe_le 8 _ _ h5,
    getLe_le 4 _ _ h6, getLe_le 4 _ _ h7, getLe_le 4 _ _ h8, getLe_le 4 _ _ h9]
  simp only [hb]

/-- The encoding of an inode is exactly the inode slot size. -/
theorem inode_encoding_size (i : DInode) (h : i.wf) : (encodeInode i).length = INODESZ := by
  have hb : (i.blks.flatMap (le 8)).length = 8 * NBLKINO := by
    rw [← h.2.2.2.2.2.2.2.2.2.1, List.length_flatMap, List.map_congr_left (fun a _ => le_length 8 a),
      List.map_const', List.sum_replicate_nat, Nat.mul_comm]
  simp only [encodeInode, List.length_append, le_length, hb]
  rfl

/-- A directory entry with a name that fits decodes to itself and occupies exactly one slot. -/
theorem dirent_roundtrip (inum : Nat) (name : Bytes) (hi : inum < 2 ^ 64) (hn : name.length ≤ MAXNAMELEN) :
    decodeDirEnt (encodeDirEnt inum name) = some (inum, name) ∧
    (encodeDirEnt inum name).length = DIRENTSZ :=
  decode_encode_dirent inum name hi hn

/-- A file handle decodes to the inode number and generation it was made from. -/
theorem fh_roundtrip (inum gen : Nat) (hi : inum < 2 ^ 64) (hg : gen < 2 ^ 64) :
    parseFh (mkFh inum gen) = (inum, gen) ∧ (mkFh inum gen).length = 16 := by
  have p64 : (2:Nat) ^ 64 = 256 ^ 8 := by decide
  rw [p64] at hi hg
  have hlen : (mkFh inum gen).length = 16 := by simp [mkFh]
  refine ⟨?_, hlen⟩
  unfold parseFh
  simp only [hlen, Nat.lt_irrefl, if_false]
  unfold mkFh
  rw [List.take_left' (le_length 8 inum), List.drop_left' (le_length 8 inum),
    List.take_of_length_le (by simp), leNat_le 8 _ hi, leNat_le 8 _ hg]

/-- Re-encoding a decoded integer field changes no byte (so rewriting an inode that was read
    and not changed rewrites the same bytes). -/
theorem field_reencode (bs : Bytes) : le bs.length (leNat bs) = bs := le_leNat bs

section cache
open GoNfsd.Model.Txn
variable {α : Type}

/-- at every quiescent point every cached inode equals the logical disk -/
theorem cache_coherent (disk : Nat → α) (ops : List (TOp α)) (hq : Quiescent (run (fresh disk) ops))
    (i : Nat) (v : α) (hc : (run (fresh disk) ops).cache i = some v) : v = (run (fresh disk) ops).disk i :=
  (run_coherent _ ops (fresh_coherent disk)).quiescent hq i v hc

/-- ... so a server rebuilt from the disk at that point reads, for every inode, exactly what
    the running server reads (from its cache or from the disk). -/
theorem restart_observational (disk : Nat → α) (ops : List (TOp α))
    (hq : Quiescent (run (fresh disk) ops)) (i : Nat) :
    let s := run (fresh disk) ops
    (step s (.load i)).cache i = (step (fresh s.disk) (.load i)).cache i := by
  intro s
  have hb : s.buf i = none := hq.1 i
  simp only [step, fresh, St.read, if_true]
  cases hc : s.cache i with
  | some v =>
    have := cache_coherent disk ops hq i v hc
    simp only [this]; rfl
  | none => simp [hb]

end cache

/-- Non-vacuity: a concrete well-formed inode and a quiescent state with a non-trivial history. -/
example : (DInode.mk 1 1 3 5000 2 10 20 30 40 [1600, 0, 0, 0, 0, 0, 0, 0, 0, 0]).wf := by
  unfold DInode.wf; decide

example : GoNfsd.Model.Txn.Quiescent
    (GoNfsd.Model.Txn.run (GoNfsd.Model.Txn.fresh (fun _ => (0:Nat)))
      [.load 3, .modify 3 (· + 1), .evict 3, .commit, .load 4, .modify 4 (· + 7), .abort]) :=
  ⟨fun _ => rfl, rfl⟩

/-! ### the allocators and the bitmaps (model M8b of `alloctxn`) -/

section alloctxn
open GoNfsd.Model.AllocTxn

/-- THE IN-MEMORY ALLOCATORS EQUAL THE ON-DISK BITMAPS WHENEVER NO TRANSACTION IS OPEN — after
    any interleaving of allocations, frees, commits and aborts of any number of concurrent
    transactions (a number allocated and freed by the same transaction included), provided the
    allocator hands out only numbers it holds free and a transaction frees only numbers in use
    that no other open transaction touches.  So a server restarted from the disk (which rebuilds
    the allocators from the bitmaps) has the allocators the running server had. -/
theorem allocators_agree_with_bitmaps_at_quiescence (disk : Nat → Bool) (ops : List AOp)
    (ha : AllowedAll (fresh disk) ops) (hq : Quiescent (GoNfsd.Model.AllocTxn.run (fresh disk) ops)) (n : Nat) :
    (GoNfsd.Model.AllocTxn.run (fresh disk) ops).mem n = (GoNfsd.Model.AllocTxn.run (fresh disk) ops).disk n := by
  refine Bool.eq_iff_iff.2 (((run_inv _ ops (fresh_inv disk) ha).mem_iff n).trans ⟨fun h => h.elim id ?_, Or.inl⟩)
  rintro ⟨t, ht⟩
  rw [hq t] at ht
  cases ht

/-- … and while transactions are open: the allocator holds exactly the numbers in use on disk
    plus those handed to an open transaction (a number being freed stays unavailable until the
    commit), and no number is in the hands of two transactions. -/
theorem allocator_is_disk_plus_open_allocations (disk : Nat → Bool) (ops : List AOp)
    (ha : AllowedAll (fresh disk) ops) :
    Inv (GoNfsd.Model.AllocTxn.run (fresh disk) ops) :=
  run_inv _ ops (fresh_inv disk) ha

/-- An abort gives back exactly what the transaction had taken: its numbers are free again in
    memory, the disk is untouched (and was never touched on their account). -/
theorem abort_returns_the_allocations (s : St) (t n : Nat) (h : Inv s) (hn : n ∈ (s.tx t).1) :
    (step s (.abort t)).mem n = false ∧ (step s (.abort t)).disk = s.disk ∧ s.disk n = false := by
  refine ⟨?_, rfl, (h.alloc_fresh t n hn).1⟩
  simp only [step, Bool.and_eq_false_iff, Bool.not_eq_false', List.contains_eq_mem, decide_eq_true_eq]
  exact Or.inr hn

/-- Non-vacuity: two interleaved transactions — one allocates 5, frees it again and commits, the
    other allocates 6, frees the in-use number 2 and aborts — are allowed at every step and end
    quiescent. -/
example :
    let disk : Nat → Bool := fun n => decide (n = 0 ∨ n = 2)
    let ops : List AOp := [.alloc 0 5, .alloc 1 6, .free 1 2, .free 0 5, .commit 0, .abort 1]
    AllowedAll (fresh disk) ops ∧ Quiescent (GoNfsd.Model.AllocTxn.run (fresh disk) ops) := by
  intro disk ops
  refine ⟨⟨rfl, rfl, ⟨rfl, fun u hu => ?_⟩, ⟨rfl, fun u hu => ?_⟩, trivial, trivial, trivial⟩, fun t => ?_⟩
  -- transaction 0, transaction 1, and every other, which holds nothing
  · match u, hu with
    | 0, _ => decide
    | 1, hu => exact absurd rfl hu
    | u + 2, _ => exact ⟨List.not_mem_nil, List.not_mem_nil⟩
  · match u, hu with
    | 0, hu => exact absurd rfl hu
    | 1, _ => decide
    | u + 2, _ => exact ⟨List.not_mem_nil, List.not_mem_nil⟩
  · match t with
    | 0 => rfl
    | 1 => rfl
    | t + 2 => rfl

end alloctxn

/-! ### the slot cache underneath (model M8c of `cache.Cache`) -/

/-- A SLOT OF THE CACHE NEVER COMES TO STAND FOR ANOTHER ID: whatever the capacity, the lookups and
    the evictions they cause, two lookups that return the same slot asked for the same id.  (The
    callers keep the slot pointer across blocking disk reads and fill it afterwards: a slot that
    were handed on to another id would receive the wrong inode.) -/
theorem cache_slot_stands_for_one_id (sz : Nat) (ids : List Nat) (i i' t : Nat)
    (h1 : (i, t) ∈ GoNfsd.Model.Cache.pairs ids (GoNfsd.Model.Cache.run (GoNfsd.Model.Cache.mk sz) ids).2)
    (h2 : (i', t) ∈ GoNfsd.Model.Cache.pairs ids (GoNfsd.Model.Cache.run (GoNfsd.Model.Cache.mk sz) ids).2) :
    i = i' := by
  obtain ⟨H, hinv, _, hp⟩ := GoNfsd.Model.Cache.run_inv ids (GoNfsd.Model.Cache.mk sz) [] ⟨nofun, nofun, nofun⟩
  exact hinv.func (i, t) (hp _ h1) (i', t) (hp _ h2) rfl

/-- non-vacuity: capacity 2, the least recently used id is evicted and gets a NEW slot later -/
example : (GoNfsd.Model.Cache.run (GoNfsd.Model.Cache.mk 2) [7, 8, 7, 9, 8, 7]).2
    = [some 0, some 1, some 0, some 2, some 3, some 4] := by decide

/-! ### the objects transactions hand to the journal (regenerated from alloctxn, inode, fstxn, dir, nfs, shrinker) -/

/-- Every journal object the file-system layer reads or overwrites has the granularity of the
    lock (or allocator number) that protects it: inode slots, whole blocks, and bitmap updates as
    SINGLE BITS — so two transactions that commit concurrently never hand the journal overlapping
    objects, and `allocators_agree_with_bitmaps_at_quiescence` is not undone when the journal
    installs them.  (Seeded change C04j gathers bitmap updates per byte: the stale byte of one
    transaction overwrites the bits of another.) -/
theorem journal_objects_have_the_granularity_of_their_locks :
    GoNfsd.Gen.Skeleton.journalObjects = GoNfsd.Model.Skeleton.journalObjectsExpected := rfl

/-! ### the name cache of a directory (model M8e of `dir/dcache.go`, `dcache.Dcache`, `AddNameDir`'s hint) -/

section namecache
open GoNfsd.Model.NameCache GoNfsd.Model.Fs

abbrev NOp := GoNfsd.Model.NameCache.Op

/-- THE CACHED DIRECTORY CONTENTS AGREE WITH WHAT IS ON DISK, in every state reachable by lookups, insertions
    (each after the lookup that found nothing, as the nfs layer does), removals, evictions / restarts and aborted
    transactions, in any order and number: the cache holds exactly the live slots — every entry names a live slot
    with that inode number at that offset, every live slot is in the cache, no name twice — and the `Lastoff`
    hint lies inside the directory. -/
theorem name_cache_is_the_directory (ops : List NOp) (c : DC) (h : (run {} ops).cur.dc = some c) :
    (∀ e ∈ c.ents, ∃ sl : Slot, (run {} ops).cur.slots[e.idx]? = some sl ∧ sl.inum ≠ 0 ∧ sl.name = e.name ∧ sl.inum = e.inum) ∧
    (∀ (i : Nat) (sl : Slot), (run {} ops).cur.slots[i]? = some sl → sl.inum ≠ 0 → ({ name := sl.name, inum := sl.inum, idx := i } : Ent) ∈ c.ents) ∧
    c.ents.Pairwise (fun a b => a.name ≠ b.name) ∧
    c.lastoff ≤ (run {} ops).cur.slots.length := by
  have hc := (run_inv {} ops empty_inv).cur.coh
  rw [Dir.cache, h] at hc
  exact ⟨hc.sound, fun i sl hg hl => hc.complete sl.name sl.inum i ⟨sl, hg, hl, rfl, rfl⟩, hc.names, hc.hint⟩

/-- … hence `LookupName`, which trusts the cache, answers in every reachable state — cache present, evicted or
    never built — what a scan of the directory's slots answers: a restart changes no LOOKUP. -/
theorem cached_lookup_is_the_scan (ops : List NOp) (name : GoNfsd.Model.Fs.Bytes) :
    (lookupName (run {} ops).cur name).2 = lookupSlots (run {} ops).cur.slots name :=
  lookupName_eq _ name (run_inv {} ops empty_inv).cur

/-- REFINEMENT: the directory code with its cache, its hint and its reuse of freed slots behaves, for every
    history, as a plain map from names to inode numbers — same replies (slot offsets aside), same map afterwards.
    The specification has no cache: `drop` (eviction, restart) is the identity there, so no history of requests
    can tell a server that was restarted in between from one that was not. -/
theorem directory_refines_a_plain_map (ops : List NOp) :
    absSt (runOut {} ops).1 = (specRun (absSt {}) ops).1 ∧
    (runOut {} ops).2.map Out.noIdx = (specRun (absSt {}) ops).2 :=
  run_refines {} ops empty_inv

theorem dropping_the_cache_is_invisible (s : Spec) : specStep s GoNfsd.Model.NameCache.Op.drop = (s, .unit) := rfl

/-- THE SLOT A NEW NAME GOES TO is free or the position just past the end — whatever the hint: the slot choice
    that the reference model M6 validates (`slotOk`) is what `AddNameDir` computes, no live entry is overwritten. -/
theorem a_new_name_goes_to_a_free_slot (slots : List Slot) (lastoff : Nat) :
    slotOk slots (addSlot slots lastoff) = true := addSlot_ok slots lastoff

/-- and M6's `addName` with that choice is this model's slot write -/
theorem reference_insertion_is_the_cached_insertion (d : Inode) (dc : Option DC) (inum : Nat) (name : GoNfsd.Model.Fs.Bytes)
    (hk : d.kind = GoNfsd.Gen.Consts.NF3DIR) (hl : name.length ≤ GoNfsd.Gen.Consts.MAXNAMELEN) :
    (GoNfsd.Model.Fs.addName d (addSlot d.slots (Dir.cache { slots := d.slots, dc := dc }).lastoff) inum name).map (·.slots) =
      some (GoNfsd.Model.NameCache.addName { slots := d.slots, dc := dc } inum name).1.slots := by
  have hok := addSlot_ok d.slots (Dir.cache { slots := d.slots, dc := dc }).lastoff
  unfold GoNfsd.Model.Fs.addName GoNfsd.Model.NameCache.addName
  have : ¬ name.length > GoNfsd.Gen.Consts.MAXNAMELEN := by omega
  simp [hk, this, hok]

/-- a removal clears a slot inside the directory that holds that very name (the offset comes from the cache) -/
theorem removal_clears_the_slot_of_the_name (ops : List NOp) (name : GoNfsd.Model.Fs.Bytes) (i : Nat)
    (h : (remName (run {} ops).cur name).2 = some i) :
    ∃ sl : Slot, (run {} ops).cur.slots[i]? = some sl ∧ sl.inum ≠ 0 ∧ sl.name = name := by
  obtain ⟨ino, hl, _⟩ := remName_some _ name i (run_inv {} ops empty_inv).cur h
  obtain ⟨g, l, _⟩ := lookupSlots_some.mp hl
  exact ⟨_, g, l, rfl⟩

/-- non-vacuity and the quirk of `AddNameDir`: offset 0 doubles as "none found", so after `a` is removed from slot 0
    the hint points at 0 and the next name is appended, not put into the free slot; a cache rebuilt after a drop
    starts with hint 0 as well -/
example :
    let s := run {} [.add [97] 5, .add [98] 6, .rem [97], .add [99] 7, .drop, .add [100] 8, .rem [98], .add [101] 9]
    s.cur.slots = [freeSlot, { inum := 9, name := [101] }, { inum := 7, name := [99] }, { inum := 8, name := [100] }] ∧
    (s.cur.dc.map (·.lastoff)) = some 1 ∧ (lookupName s.cur [99]).2 = some (7, 2) := by decide

/-- an aborted transaction: the directory is as before and the cache is gone -/
example :
    let s := run {} [.add [97] 5, .begin_, .add [98] 6, .rem [97], .abort, .look [98], .look [97]]
    s.cur.slots = [{ inum := 5, name := [97] }] ∧ (lookupName s.cur [98]).2 = none ∧ (lookupName s.cur [97]).2 = some (5, 0) := by decide

/-- WHY AN ABORT MUST FORGET THE CACHED INODE (what `forgetInodes` is for; its unconditional call is checked on the
    regenerated statement lists, `Props/C09.an_abort_forgets_every_inode_of_the_transaction`): a transaction removes
    `a` and aborts; the slots are restored by the journal, but a name cache that survived the abort no longer knows `a` —
    `LookupName` says absent although the name is on disk, and the next CREATE of `a` writes the name a second time.
    (Seeded changes C10m, C12m, C02n, C13n keep cached inodes across some aborts.) -/
theorem a_name_cache_kept_across_an_abort_contradicts_the_directory :
    let s := run {} [.add [97] 5, .begin_, .rem [97]]
    let kept : Dir := { slots := s.saved, dc := s.cur.dc }      -- the abort undoes the slots and KEEPS the cache
    (lookupName kept [97]).2 = none ∧ lookupSlots kept.slots [97] = some (5, 0) ∧
    ((GoNfsd.Model.NameCache.addName kept 6 [97]).1.slots.filter fun sl => sl.inum ≠ 0 ∧ sl.name = [97]).length = 2 := by decide

/-- `mkDcache` IS THE UNBOUNDED LISTING: the code builds the name cache by `ApplyEnts` — the very loop behind READDIR,
    M6's `readdirPage`, tied to the code by every listing reply — with the callback `Dcache.Add`; whenever the budget lies
    above the estimate of the whole directory (the code passes 2^64−1) the result is the cache of model M8e, so
    `name_cache_is_the_directory` speaks about what `mkDcache` builds. -/
theorem mkDcache_is_the_listing_with_an_unbounded_budget (slots : List Slot) (count : Nat) (h : 64 + cost slots < count) :
    buildFromPage slots count = build slots := by
  unfold buildFromPage readdirPage page build
  exact pageGo_builds count slots 0 64 {} h

def longName (k : Nat) : GoNfsd.Model.Fs.Bytes := List.replicate 111 97 ++ [UInt8.ofNat k]

/-- a directory of ".", ".." and seventeen names of 112 bytes -/
def bigDir : List Slot :=
  [{ inum := 2, name := [46] }, { inum := 1, name := [46, 46] }] ++ (List.range 17).map fun k => { inum := 10 + k, name := longName k }

theorem longName_inj {j k : Nat} (hj : j < 256) (hk : k < 256) (h : longName j = longName k) : j = k := by
  have := congrArg UInt8.toNat (List.cons.inj (List.append_cancel_left h)).1
  rwa [UInt8.toNat_ofNat_of_lt' hj, UInt8.toNat_ofNat_of_lt' hk] at this

/-- … and with the directory's SIZE as the budget (seeded changes C10k / C04l) it is not: `ApplyEnts` charges 32 bytes plus
    the name per entry, a slot has 128, so with names of more than 96 bytes the estimate overtakes the size — the last of
    the seventeen names is on disk and not in the rebuilt cache (the next CREATE of it writes it a second time). -/
theorem a_rebuild_bounded_by_the_directory_size_misses_entries :
    ((buildFromPage bigDir (bigDir.length * DIRENTSZ)).lookup (longName 16)) = none ∧
    lookupSlots bigDir (longName 16) = some (26, 18) := by
  -- the first 18 slots: none of them holds the last name, and their estimate 64 + 33 + 34 + 16 · 144 reaches 19 · 128
  have first : bigDir.take 18 = [⟨2, [46]⟩, ⟨1, [46, 46]⟩] ++ (List.range 16).map fun k => ⟨10 + k, longName k⟩ := rfl
  have others : ∀ s ∈ bigDir.take 18, s.name ≠ longName 16 := by
    rw [first]
    intro s hs
    simp only [List.mem_append, List.mem_cons, List.mem_map, List.mem_range, List.not_mem_nil, or_false] at hs
    rcases hs with (rfl | rfl) | ⟨k, hk, rfl⟩
    · decide
    · decide
    · exact fun h => absurd (longName_inj (by omega) (by omega) h) (by omega)
  have est : bigDir.length * DIRENTSZ ≤ 64 + cost (bigDir.take 18) := by
    have len (k : Nat) : (longName k).length = 112 := by
      rw [longName, List.length_append, List.length_replicate]; rfl
    rw [first, cost_append, cost_map _ 112 fun k => ⟨Nat.ne_of_gt (Nat.lt_add_right k (by decide)), len k⟩,
      List.length_range]
    decide
  refine ⟨mkDcache_misses_what_lies_beyond_the_budget bigDir _ 18 _ (by decide) est others, ?_⟩
  refine lookupSlots_some.mpr ⟨rfl, by decide, fun j hj sj hsj hm => ?_⟩
  have : (bigDir.take 18)[j]? = some sj := by rw [List.getElem?_take, if_pos hj]; exact hsj
  exact others sj (List.mem_of_getElem? this) hm.2

end namecache

end GoNfsd.Props.C10
