/-
C01 — crash atomicity and durability of every NFS operation.

The proof part is about the write-ahead log (model M9, `Model/Wal.lean`): whatever the
interleaving of logger and installer steps, whatever point the disk is cut off at and whatever
subset of the un-barriered writes is lost — and however often the server crashes again while
recovering — the logical disk that recovery reconstructs is the disk after a PREFIX of the
sequence of logged updates, and that prefix contains every update whose header was made
durable (every acknowledged synchronous commit).  Because an NFS operation is one journal
transaction (one contiguous run of updates appended atomically), a prefix of updates at a group
boundary is a prefix of operations.
Ties: `walcheck` maps the disk trace RECORDED from a real run onto the model's steps and checks
every guard (so the theorem's hypothesis is observed to hold of what go-journal did); the crash
harness builds crash images from the same trace, lets the REAL server recover, and compares the
recovered tree with the reference states after each prefix of operations.
-/
import GoNfsd.Lemmas.ObjLog
import GoNfsd.Lemmas.JournalObjects
import GoNfsd.Lemmas.MemLog

namespace GoNfsd.Props.C01
open GoNfsd.Model.Wal

variable {α : Type}

/-- Crash safety of the log: for EVERY reachable protocol state (any interleaving of slot,
    header-1, home and header-2 writes and barriers taken under the threads' guards, any number
    of earlier crashes and restarts) and EVERY crash state of it (per disk cell: the durable
    content or any one of the writes still in the volatile buffer), the logical disk served
    after recovery equals the specification after the first `e` updates, where `e` is the end of
    a group commit (header-1 write) that is durable or was issued, and is at least the end of the
    last durable one. -/
theorem wal_crash_safe (base : Nat → α) (U : Nat → Upd α) (s : St) (c : Crash)
    (hr : Reach U s) (hv : c.valid s U) :
    ∃ e, s.eD ≤ e ∧ (e = s.eD ∨ e ∈ s.pE) ∧ logical s base U c = spec base U e :=
  ⟨c.endv, (crash_bounds s U c (reach_inv U s hr) hv).2.2.1, hv.2.1, funext (crash_logical s base U c hr hv)⟩

/-- The durable end never moves backwards: neither by protocol steps nor by a crash and restart. -/
theorem durable_end_monotone_step (s : St) (x : Step) (h : Inv s) : s.eD ≤ (step s x).eD :=
  match x with
  | .barrier => (eIssued_bounds s h).1
  | .slot | .hdr1 _ | .home | .hdr2 _ => Nat.le_refl _

theorem durable_end_monotone_crash (U : Nat → Upd α) (s : St) (c : Crash) (h : Inv s) (hv : c.valid s U) :
    s.eD ≤ (restart c).eD := (crash_bounds s U c h hv).2.2.1

/-- Durability: once a group commit is durable (a synchronous commit has been acknowledged —
    `Flush` returned because `diskEnd` covers it), every later crash state of every later
    protocol state — after more steps, crashes and restarts — still contains it: the recovered
    logical disk is the specification after at least that many updates. -/
theorem acknowledged_survives (base : Nat → α) (U : Nat → Upd α) (s s' : St) (c : Crash) (n : Nat)
    (hack : n ≤ s.eD) (hlater : s.eD ≤ s'.eD) (hr : Reach U s') (hv : c.valid s' U) :
    ∃ e, n ≤ e ∧ logical s' base U c = spec base U e := by
  obtain ⟨e, h1, _, h4⟩ := wal_crash_safe base U s' c hr hv
  exact ⟨e, Nat.le_trans hack (Nat.le_trans hlater h1), h4⟩

/-- Repeated crashes during recovery: the state a server restarts in after a crash is again a
    protocol state to which `wal_crash_safe` applies, and the updates it may lose are never
    those that were durable before the first crash. -/
theorem wal_recover_idempotent (base : Nat → α) (U : Nat → Upd α) (s : St) (c c' : Crash)
    (hr : Reach U s) (hv : c.valid s U) (hv' : c'.valid (restart c) U) :
    ∃ e, s.eD ≤ e ∧ logical (restart c) base U c' = spec base U e := by
  obtain ⟨e, h1, _, h4⟩ := wal_crash_safe base U (restart c) c' (Reach.crash s c hr hv) hv'
  exact ⟨e, Nat.le_trans (durable_end_monotone_crash U s c (reach_inv U s hr) hv) h1, h4⟩

/-- No operation is visible in part: the recovered logical disk is a prefix state of the
    update sequence, so for every address it holds the value of the last update before `e` that
    writes it, or the base value — never a mixture within one position. -/
theorem recovered_is_prefix_state (base : Nat → α) (U : Nat → Upd α) (e a : Nat) :
    (∃ p, p < e ∧ (U p).addr = a ∧ (∀ q, p < q → q < e → (U q).addr ≠ a) ∧ spec base U e a = (U p).blk) ∨
    ((∀ q, q < e → (U q).addr ≠ a) ∧ spec base U e a = base a) := by
  induction e with
  | zero => exact .inr ⟨nofun, rfl⟩
  | succ e ih =>
    rw [spec_succ]
    by_cases ha : a = (U e).addr
    · exact .inl ⟨e, Nat.lt_succ_self e, ha.symm, fun q h1 h2 => absurd h1 (Nat.not_lt.mpr (Nat.le_of_lt_succ h2)), if_pos ha⟩
    · rw [if_neg ha]
      -- position `e` does not write `a`: whatever holds of the positions below `e` holds of those below `e + 1`
      have hq : ∀ q, q < e + 1 → (q < e → (U q).addr ≠ a) → (U q).addr ≠ a := fun q h f =>
        (Nat.lt_succ_iff_lt_or_eq.mp h).elim f fun e' => e' ▸ Ne.symm ha
      rcases ih with ⟨p, p1, p2, p3, p4⟩ | ⟨n1, n2⟩
      · exact .inl ⟨p, Nat.lt_succ_of_lt p1, p2, fun q h1 h2 => hq q h2 (p3 q h1), p4⟩
      · exact .inr ⟨fun q h => hq q h (n1 q), n2⟩

/-- Non-vacuity: a run with one group of two updates, header written, log not yet installed; a
    crash that keeps everything is a valid crash state of a reachable protocol state. -/
example : Reach (fun _ => (⟨600, 0⟩ : Upd Nat))
    (step (step (step (step (step init .slot) .slot) .barrier) (.hdr1 2)) .barrier) := by
  refine Reach.step _ _ (Reach.step _ _ (Reach.step _ _ (Reach.step _ _ (Reach.step _ _ Reach.init ?_) ?_) ?_) ?_) ?_
  all_goals simp [GoNfsd.Model.Wal.guard, step, init, St.eIssued, L, GoNfsd.Gen.Consts.WAL_LOGSZ]

/-! ### the in-memory log: a group commit is a prefix of WHOLE transactions -/

open GoNfsd.Model.MemLog in
/-- Group commits end at transaction boundaries, and absorption never reaches below one.
    Take any history of the in-memory log: events `es1`, a flush request, then any events
    `es2` (more transactions, absorbed into each other or not, more flushes).  Let `e` be the
    value of `mutable` right after the flush — the end value the logger writes into header 1.
    Then (a) the positions below `e` are never changed by anything that follows, and (b) they
    hold exactly the transactions appended before the flush, all of each, in order. -/
theorem group_is_txn_prefix (m0 : MemLog α) (es1 es2 : List (Ev α)) (h0 : m0.ok) :
    let m1 := runEv m0 (es1 ++ [Ev.flush])
    let m2 := runEv m1 es2
    m2.log.take m1.mutable = m1.log.take m1.mutable ∧
    ∀ (base : Nat → α) x, applyUpds base (m2.log.take m1.mutable) x = applyUpds base (m0.log ++ txnsOf es1) x := by
  intro m1 m2
  have hm1 : m1 = flush (runEv m0 es1) := List.foldl_append ..
  have e2 := runEv_ext m1 es2 (hm1 ▸ Nat.le_refl _)
  refine ⟨e2.take_eq, fun base x => ?_⟩
  rw [e2.take_eq, hm1]
  exact (congrArg (applyUpds base · x) (List.take_length ..)).trans ((runEv_ext m0 es1 h0).apply_eq base x)

open GoNfsd.Model.MemLog in
/-- The update sequence the on-disk log sees is the in-memory log: for a flush point `e` inside
    the log, the WAL specification after `e` updates is the state after the transactions
    appended before that flush. -/
theorem spec_at_flush_point (base : Nat → α) (l : List (Upd α)) (d : Upd α) (e : Nat) (he : e ≤ l.length) (x : Nat) :
    spec base (fun p => l.getD p d) e x = applyUpds base (l.take e) x := by
  induction e with
  | zero => rfl
  | succ e ih =>
    rw [spec_succ, ih (Nat.le_of_succ_le he), List.take_succ_eq_append_getElem he, applyUpds_snoc,
      List.getElem_eq_getD d]

open GoNfsd.Model.MemLog in
/-- NO OPERATION IS VISIBLE IN PART.  Let the update sequence of the on-disk log be the
    in-memory log of a history `es1, flush, es2`, and let a crash state recover the header-1
    value `e` written for that flush.  Then the recovered logical disk is exactly the disk after
    ALL transactions of `es1` and NONE of `es2` — each NFS operation being one transaction. -/
theorem crash_recovers_whole_transactions (base : Nat → α) (m0 : MemLog α) (es1 es2 : List (Ev α)) (h0 : m0.ok)
    (d : Upd α) (s : St) (c : Crash)
    (hr : Reach (fun p => (runEv (runEv m0 (es1 ++ [Ev.flush])) es2).log.getD p d) s)
    (hv : c.valid s (fun p => (runEv (runEv m0 (es1 ++ [Ev.flush])) es2).log.getD p d))
    (hend : c.endv = (runEv m0 (es1 ++ [Ev.flush])).mutable) (x : Nat) :
    logical s base (fun p => (runEv (runEv m0 (es1 ++ [Ev.flush])) es2).log.getD p d) c x =
      applyUpds base (m0.log ++ txnsOf es1) x := by
  rw [crash_logical s base _ c hr hv x, hend]
  have hm1 : runEv m0 (es1 ++ [Ev.flush]) = flush (runEv m0 es1) := List.foldl_append ..
  have e2 := runEv_ext _ es2 (show (runEv m0 (es1 ++ [Ev.flush])).ok from hm1 ▸ Nat.le_refl _)
  rw [spec_at_flush_point base _ d _ (Nat.le_trans e2.mutable_le e2.ok) x]
  exact (group_is_txn_prefix m0 es1 es2 h0).2 base x

/-! ### what a stable acknowledgement may rely on (model M9c of `obj.Log`, the layer that remembers a log position)

Found on the unchanged tree (fix 0fea8f5): COMMIT called `Txn.Flush()`, which flushes up to the
position `obj.Log` remembers from the last `doCommit` — also from one the log REFUSED, and then the
position is 0. -/
section objlog
open GoNfsd.Model.ObjLog

/-- The dependency as it is: a `Flush()` right after a refused transaction makes nothing durable —
    whatever had been acknowledged as unstable before it stays in memory.  (The concrete history:
    one unstable commit, one refused commit, `Flush()`: one transaction appended, none durable.) -/
theorem flush_forgets_after_a_refusal (s : OL) (w : Bool) :
    (step (step s (.commit false w)) .flush).durable = s.durable ∧
    (run {} [.commit true false, .commit false false, .flush]).durable <
      (run {} [.commit true false, .commit false false, .flush]).next :=
  ⟨Nat.max_eq_left (Nat.zero_le _), by decide⟩

/-- What every stable operation does, and `CommitFh` too since 0fea8f5: `CommitWait(true)` of a
    non-empty transaction, which flushes up to ITS OWN position.  In every state the log can be in — whatever was committed,
    refused, flushed or written by the logger before — everything appended so far is durable
    afterwards, and stays so. -/
theorem stable_commit_is_durable_whatever_was_remembered (es es' : List Ev) :
    let t := step (run {} es) (.commit true true)
    t.durable = t.next ∧ t.next ≤ (run t es').durable := stable_commit_stays_durable es es'

/-- ... and no function of /repo's transaction layer calls `Flush()` any more (the list is
    regenerated from fstxn/*.go on every run; a caller reappearing — the seeded change C01i puts
    one into every stable commit — is named by the check). -/
theorem nobody_relies_on_the_remembered_position : GoNfsd.Gen.Skeleton.flushCallers = [] := by decide

end objlog

/-! ### what recovery rebuilds the allocators from is what the transactions committed -/

/-- After a crash the allocators are rebuilt from the bitmaps of the logical disk (6a36d18), so a
    committed allocation must be IN the bitmap: bitmap updates reach the journal as single bits,
    each owned by the transaction that holds the number.  A wider object (a bitmap byte: eight
    numbers, up to eight transactions) is merged by the journal with the stale bits of whoever
    commits next to it; the allocators in memory hide the lost bit until the restart, after which
    a block holding acknowledged data is handed out again.  Table regenerated from the source on
    every run (`Props/C10.journal_objects_have_the_granularity_of_their_locks` has all objects). -/
theorem committed_allocations_reach_the_bitmap_as_single_bits :
    ∀ e ∈ GoNfsd.Gen.Skeleton.journalObjects, e.1 = "alloctxn.WriteBits" → e.2.1 = "OverWrite" ∧ e.2.2 = "1" :=
  GoNfsd.Model.Skeleton.writeBits_single_bits

example : ("alloctxn.WriteBits", "OverWrite", "1") ∈ GoNfsd.Gen.Skeleton.journalObjects :=
  GoNfsd.Model.Skeleton.writeBits_in_journalObjects

end GoNfsd.Props.C01
