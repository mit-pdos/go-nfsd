/-
M16 "OpCache": why a transaction must be two-phase and read only under the lock, although every request is one journal
transaction.  A journal operation (`jrnl.Op`) keeps a private copy of every object it has read (`ReadBuf` returns the
copy on later reads) and writes back what it holds.  One object is enough: its committed value on the logical disk, the
operation's copy, whether the operation holds the object's lock; other transactions commit new values whenever the
lock is free.  `go` runs a history and collects, for every read made under the lock, the value returned and the
committed value at that moment.
-/
namespace GoNfsd.Model.OpCache

structure St where
  disk : Nat := 0
  copy : Option Nat := none
  held : Bool := false

inductive Ev where
  | acquire
  | release
  | read
  | otherCommit (v : Nat)   -- another transaction commits `v` (it needs the lock: no effect while we hold it)
  deriving Repr

def go : St → List Ev → List (Nat × Nat)
  | _, [] => []
  | s, .acquire :: r => go { s with held := true } r
  | s, .release :: r => go { s with held := false } r
  | s, .read :: r =>
    let v := s.copy.getD s.disk
    (if s.held then [(v, s.disk)] else []) ++ go { s with copy := some v } r
  | s, .otherCommit v :: r => go (if s.held then s else { s with disk := v }) r

/-- no lock is taken after one was given back (`rel`: a release has happened) -/
def twoPhase : Bool → List Ev → Bool
  | _, [] => true
  | true, .acquire :: _ => false
  | false, .acquire :: r => twoPhase false r
  | _, .release :: r => twoPhase true r
  | rel, .read :: r => twoPhase rel r
  | rel, .otherCommit _ :: r => twoPhase rel r

/-- the object is read only while its lock is held (`held`) -/
def wellLocked : Bool → List Ev → Bool
  | _, [] => true
  | _, .acquire :: r => wellLocked true r
  | _, .release :: r => wellLocked false r
  | held, .read :: r => held && wellLocked held r
  | held, .otherCommit _ :: r => wellLocked held r

structure Inv (s : St) (rel : Bool) : Prop where
  released : rel = true → s.held = false
  /-- before any release a private copy exists only under the lock, and is the committed value -/
  current : ∀ v, s.copy = some v → rel = true ∨ (s.held = true ∧ v = s.disk)

theorem reads_current (evs : List Ev) : ∀ (s : St) (rel : Bool), Inv s rel →
    twoPhase rel evs = true → wellLocked s.held evs = true → ∀ p ∈ go s evs, p.1 = p.2 := by
  induction evs with
  | nil => intro _ _ _ _ _ p hp; cases hp
  | cons e rest ih =>
    intro ⟨disk, copy, held⟩ rel hinv h2 hw p hp
    cases e with
    | acquire =>
      cases rel with
      | true => cases h2
      | false => exact ih ⟨disk, copy, true⟩ false ⟨nofun, fun v hv => (hinv.current v hv).imp_right (⟨rfl, ·.2⟩)⟩ h2 hw p hp
    | release => exact ih ⟨disk, copy, false⟩ true ⟨fun _ => rfl, fun _ _ => .inl rfl⟩ h2 hw p hp
    | read =>
      -- a read is allowed under the lock only, so nothing was released yet and the copy, if any, is current
      obtain ⟨rfl, hw⟩ := Bool.and_eq_true_iff.mp hw
      obtain rfl : rel = false := by
        cases rel with
        | false => rfl
        | true => cases hinv.released rfl
      have hv : copy.getD disk = disk := by
        cases copy with
        | none => rfl
        | some v => exact (hinv.current v rfl).elim nofun (·.2)
      rcases List.mem_cons.mp hp with rfl | hp
      · exact hv
      · exact ih ⟨disk, some (copy.getD disk), true⟩ false
          ⟨nofun, fun v e => .inr ⟨rfl, (Option.some.inj e).symm.trans hv⟩⟩ h2 hw p hp
    | otherCommit v =>
      cases held with
      | true => exact ih _ rel hinv h2 hw p hp
      | false => exact ih ⟨v, copy, false⟩ rel ⟨fun _ => rfl, fun w e => (hinv.current w e).imp_right (nomatch ·.1)⟩ h2 hw p hp

theorem init_inv : Inv {} false := ⟨(fun h => by cases h), (fun v h => by cases h)⟩

end GoNfsd.Model.OpCache
