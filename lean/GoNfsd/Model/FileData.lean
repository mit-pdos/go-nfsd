/-
M7d: the bytes of a file on disk blocks — the data path of `inode.Write`, `inode.Read` and
`inode.Resize` below the pointer structure of M7.

A file is a map from file block numbers to disk blocks (0 = hole; this is `ptr` of M7 at the data
positions, see `Lemmas/FilesBridge.bmap_is_ensure`), the contents of the disk blocks, and a size.
  * `ensure`   — `bmap`: a hole gets the block the allocator hands out;
  * `poke`     — the copy loop of `Write`, one byte;
  * `writeFrom`/`write` — `Inode.Write`;
  * `zeroTail` + `resize` — `Inode.Resize`: the kept last block is cleared beyond the new size, the
    blocks behind it are unmapped (the shrink run to completion: M7 `shrinkTo`);
  * `byte` / `read` — `Inode.Read`: a hole reads as zeros, nothing is read beyond the size.
The theorems of `Lemmas/FileData` say that this is the content log of the reference model M6
(`Model/Fs.byteAt`): a write shows exactly its bytes, a truncation cuts, growing exposes zeros.
-/
import GoNfsd.Gen.Consts
import GoNfsd.Model.Fs

namespace GoNfsd.Model.FileData

def BS : Nat := 4096

theorem BS_is_the_block_size : BS = GoNfsd.Gen.Consts.BlockSize := rfl

structure F where
  map  : Nat → Nat            -- file block ↦ disk block (0: hole)
  data : Nat → Nat → UInt8    -- disk block ↦ offset ↦ byte
  size : Nat                  -- bytes

/-- what is stored for position `pos`, whatever the size says -/
def F.cell (f : F) (pos : Nat) : UInt8 :=
  if f.map (pos / BS) = 0 then 0 else f.data (f.map (pos / BS)) (pos % BS)

/-- `Inode.Read`, one byte -/
def F.byte (f : F) (pos : Nat) : UInt8 := if pos < f.size then f.cell pos else 0

/-- `Inode.Read` -/
def F.read (f : F) (off n : Nat) : List UInt8 := (List.range n).map fun k => f.byte (off + k)

/-- `bmap` on a data position: a hole gets block `b` -/
def F.ensure (f : F) (i b : Nat) : F :=
  if f.map i = 0 then { f with map := fun j => if j = i then b else f.map j } else f

/-- one byte of the copy loop -/
def F.poke (f : F) (pos : Nat) (x : UInt8) : F :=
  { f with data := fun b o => if b = f.map (pos / BS) ∧ o = pos % BS then x else f.data b o }

/-- the loop of `Inode.Write` from `pos` on; `fresh i`: what the allocator hands out when file
    block `i` turns out to be a hole -/
def F.writeFrom (f : F) (fresh : Nat → Nat) : Nat → List UInt8 → F
  | _, [] => f
  | pos, x :: xs => ((f.ensure (pos / BS) (fresh (pos / BS))).poke pos x).writeFrom fresh (pos + 1) xs

/-- `Inode.Write` -/
def F.write (f : F) (fresh : Nat → Nat) (off : Nat) (bytes : List UInt8) : F :=
  { f.writeFrom fresh off bytes with size := max f.size (off + bytes.length) }

/-- `Resize`, shrinking to a size inside a block: what the kept block holds beyond it is cleared -/
def F.zeroTail (f : F) (n : Nat) : F :=
  if n % BS = 0 then f else
  { f with data := fun b o => if b = f.map (n / BS) ∧ n % BS ≤ o then 0 else f.data b o }

def roundUp (n : Nat) : Nat := (n + BS - 1) / BS

/-- `Inode.Resize` (with the shrink it starts run to completion) -/
def F.resize (f : F) (n : Nat) : F :=
  if n < f.size then
    let g := f.zeroTail n
    { g with size := n, map := fun i => if roundUp n ≤ i then 0 else g.map i }
  else { f with size := n }

end GoNfsd.Model.FileData

namespace GoNfsd.Model.FileData

/-- the disk blocks a `Resize` to `n` gives back: those of the file blocks from `roundUp n` up to the
    end of the file (the run of `Shrink`) -/
def F.dropped (f : F) (n : Nat) : List Nat :=
  ((List.range (roundUp f.size)).filter fun i => roundUp n ≤ i).map f.map

/-- `Inode.Resize` with `FreeBlock`'s zeroing: every block given back is cleared -/
def F.resizeZ (f : F) (n : Nat) : F :=
  { f.resize n with data := fun b o => if b ≠ 0 ∧ b ∈ f.dropped n then 0 else (f.resize n).data b o }

/-! ### several files on one disk -/

/-- files (by number) sharing the blocks of one disk -/
structure G where
  maps  : Nat → Nat → Nat
  sizes : Nat → Nat
  data  : Nat → Nat → UInt8

def G.file (g : G) (a : Nat) : F := { map := g.maps a, data := g.data, size := g.sizes a }

def G.setFile (g : G) (a : Nat) (f : F) : G :=
  { maps := fun x => if x = a then f.map else g.maps x,
    sizes := fun x => if x = a then f.size else g.sizes x,
    data := f.data }

/-- WRITE to file `a` -/
def G.write (g : G) (a : Nat) (fresh : Nat → Nat) (off : Nat) (bytes : List UInt8) : G :=
  g.setFile a ((g.file a).write fresh off bytes)

/-- SETATTR size of file `a` (size 0: the content of a removed file is dropped the same way) -/
def G.resize (g : G) (a : Nat) (n : Nat) : G := g.setFile a ((g.file a).resizeZ n)

end GoNfsd.Model.FileData
