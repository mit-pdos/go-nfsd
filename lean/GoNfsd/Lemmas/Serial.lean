import GoNfsd.Model.Serial

/-! M10b: the objects as they are (`A`) against the serial execution in commit order (`C`).  On an object somebody holds,
    `A` is the replay (`runSerial`) of the holder's pending actions on top of `C`; a commit moves `C` on the objects of
    the committing transaction only, so nobody else's replay changes. -/
namespace GoNfsd.Model.Serial

theorem runSerial_append (t : Nat) (l : List Act) (a : Act) (c : Nat → Val) :
    (∀ o, (runSerial t (l ++ [a]) c).1 o = if o = a.obj then a.f ((runSerial t l c).1 a.obj) else (runSerial t l c).1 o) ∧
    (runSerial t (l ++ [a]) c).2 = (runSerial t l c).2 ++ [(t, a.obj, (runSerial t l c).1 a.obj)] := by
  induction l generalizing c with
  | nil => exact ⟨fun _ => rfl, rfl⟩
  | cons b rest ih => exact ⟨(ih _).1, congrArg (_ :: ·) (ih _).2⟩

theorem runSerial_untouched (t : Nat) (l : List Act) (c : Nat → Val) (o : Nat) (h : ∀ a ∈ l, a.obj ≠ o) :
    (runSerial t l c).1 o = c o := by
  induction l generalizing c with
  | nil => rfl
  | cons a rest ih => exact (ih _ fun b hb => h b (.tail _ hb)).trans (if_neg (Ne.symm (h a (.head _))))

theorem runSerial_state_congr (t : Nat) (l : List Act) (c c' : Nat → Val) (o : Nat) (h : c o = c' o) :
    (runSerial t l c).1 o = (runSerial t l c').1 o := by
  induction l generalizing c c' with
  | nil => exact h
  | cons a rest ih =>
    refine ih _ _ ?_
    by_cases e : o = a.obj
    · rw [if_pos e, if_pos e, ← e, h]
    · rw [if_neg e, if_neg e, h]

theorem runSerial_reads_congr (t : Nat) (l : List Act) (c c' : Nat → Val)
    (h : ∀ a ∈ l, c a.obj = c' a.obj) : (runSerial t l c).2 = (runSerial t l c').2 := by
  induction l generalizing c c' with
  | nil => rfl
  | cons a rest ih =>
    have ha := h a (.head _)
    show (t, a.obj, c a.obj) :: _ = (t, a.obj, c' a.obj) :: _
    rw [ha]
    refine congrArg _ (ih _ _ fun b hb => ?_)
    by_cases e : b.obj = a.obj
    · rw [if_pos e, if_pos e]
    · rw [if_neg e, if_neg e, h b (.tail _ hb)]

theorem runSerial_reads_filter (t u : Nat) (l : List Act) (c : Nat → Val) :
    (runSerial u l c).2.filter (fun r => r.1 == t) = if u = t then (runSerial u l c).2 else [] := by
  induction l generalizing c with
  | nil => exact (ite_self _).symm
  | cons a rest ih =>
    simp only [runSerial, List.filter_cons, ih]
    by_cases h : u = t
    · rw [if_pos (beq_iff_eq.mpr h), if_pos h, if_pos h]
    · rw [if_neg (mt beq_iff_eq.mp h), if_neg h, if_neg h]

structure Inv (s : St) : Prop where
  /-- an object nobody holds is as the committed transactions left it -/
  free_eq : ∀ o, s.held o = none → s.A o = s.C o
  /-- an object somebody holds differs from that only by what the holder has done to it -/
  held_eq : ∀ o t, s.held o = some t → s.A o = (runSerial t (s.pend t) s.C).1 o
  /-- a transaction has touched only objects it holds -/
  pend_held : ∀ t a, a ∈ s.pend t → s.held a.obj = some t
  /-- what each transaction has read so far is what it reads in the serial execution -/
  reads_eq : ∀ t, s.reads.filter (fun r => r.1 == t) =
    s.sreads.filter (fun r => r.1 == t) ++ (runSerial t (s.pend t) s.C).2

theorem init_inv (v : Nat → Val) : Inv (init v) :=
  ⟨fun _ _ => rfl, nofun, nofun, fun _ => rfl⟩

theorem step_inv (s : St) (e : Ev) (h : Inv s) (ha : Allowed s e) : Inv (step s e) := by
  obtain ⟨h1, h2, h3, h4⟩ := h
  cases e with
  | acq t o =>
    have hfree : s.held o = none := ha
    have hnp : ∀ u a, a ∈ s.pend u → a.obj ≠ o := fun u a hm he => by
      have := h3 u a hm; rw [he, hfree] at this; cases this
    refine ⟨fun x hx => ?_, fun x u hx => ?_, fun u a hm => (if_neg (hnp u a hm)).trans (h3 u a hm), h4⟩
    · by_cases hxo : x = o
      · cases (if_pos hxo).symm.trans hx
      · exact h1 x ((if_neg hxo).symm.trans hx)
    · dsimp only [step] at hx ⊢
      split at hx
      · cases hx; subst x
        exact (h1 o hfree).trans (runSerial_untouched _ _ _ _ (hnp t)).symm
      · exact h2 x u hx
  | act t a =>
    have hheld : s.held a.obj = some t := ha
    have hA := h2 _ t hheld
    refine ⟨fun o ho => ?_, fun o u ho => ?_, fun u b hm => ?_, fun u => ?_⟩
    · exact (if_neg fun he => by cases hheld.symm.trans (he ▸ ho)).trans (h1 o ho)
    · dsimp only [step]
      by_cases hu : u = t
      · rw [if_pos hu, (runSerial_append ..).1, hu, ← hA]
        by_cases ho' : o = a.obj
        · rw [if_pos ho', if_pos ho']
        · rw [if_neg ho', if_neg ho']; exact h2 o t (hu ▸ ho)
      · rw [if_neg hu, if_neg fun he => hu (Option.some.inj ((he ▸ ho).symm.trans hheld))]
        exact h2 o u ho
    · dsimp only [step] at hm ⊢
      split at hm
      · subst u
        rcases List.mem_append.mp hm with hm | hm
        · exact h3 t b hm
        · cases List.mem_singleton.mp hm; exact hheld
      · exact h3 u b hm
    · dsimp only [step]
      rw [List.filter_append, h4 u, List.append_assoc]
      by_cases hu : u = t
      · rw [if_pos hu, hu, (runSerial_append ..).2, ← hA, List.filter_cons, if_pos (beq_self_eq_true t)]; rfl
      · rw [if_neg hu, List.filter_cons, if_neg (mt beq_iff_eq.mp (Ne.symm hu)), List.filter_nil, List.append_nil]
  | commit t =>
    -- the serial state moves on the objects `t` holds, and only there
    have hother : ∀ o, s.held o ≠ some t → (runSerial t (s.pend t) s.C).1 o = s.C o := fun o ho =>
      runSerial_untouched _ _ _ _ fun a hm he => ho (he ▸ h3 t a hm)
    have hne : ∀ u a, u ≠ t → a ∈ s.pend u → s.held a.obj ≠ some t := fun u a hut hm e =>
      hut (Option.some.inj ((h3 u a hm).symm.trans e))
    refine ⟨fun o ho => ?_, fun o u ho => ?_, fun u a hm => ?_, fun u => ?_⟩
    · by_cases ht : s.held o = some t
      · exact h2 o t ht
      · exact (h1 o ((if_neg ht).symm.trans ho)).trans (hother o ht).symm
    · by_cases ht : s.held o = some t
      · cases (if_pos ht).symm.trans ho
      · have ho' := (if_neg ht).symm.trans ho
        have hut : u ≠ t := fun e => ht (e ▸ ho')
        dsimp only [step]
        rw [if_neg hut]
        exact (h2 o u ho').trans (runSerial_state_congr u _ _ _ o (hother o ht).symm)
    · dsimp only [step] at hm ⊢
      by_cases hut : u = t
      · rw [if_pos hut] at hm; cases hm
      · rw [if_neg hut] at hm; rw [if_neg (hne u a hut hm)]; exact h3 u a hm
    · dsimp only [step]
      rw [List.filter_append, runSerial_reads_filter, List.append_assoc, h4 u]
      by_cases hut : u = t
      · rw [if_pos hut.symm, if_pos hut, hut]; exact congrArg _ (List.append_nil _).symm
      · rw [if_neg (Ne.symm hut), if_neg hut, List.nil_append]
        exact congrArg _ (runSerial_reads_congr u _ _ _ fun a hm => (hother a.obj (hne u a hut hm)).symm)

theorem run_inv (s : St) (es : List Ev) (h : Inv s) (ha : AllowedAll s es) : Inv (run s es) := by
  induction es generalizing s with
  | nil => exact h
  | cons e rest ih => exact ih _ (step_inv s e h ha.1) ha.2

/-- the transactions of a history in commit order, each with everything it did -/
def commitLog (s : St) : List Ev → List (Nat × List Act)
  | [] => []
  | e :: rest =>
    (match e with
      | .commit t => [(t, s.pend t)]
      | _ => []) ++ commitLog (step s e) rest

def serialExec (c : Nat → Val) : List (Nat × List Act) → (Nat → Val) × List (Nat × Nat × Val)
  | [] => (c, [])
  | (t, l) :: rest =>
    ((serialExec (runSerial t l c).1 rest).1, (runSerial t l c).2 ++ (serialExec (runSerial t l c).1 rest).2)

theorem run_serial_view (es : List Ev) : ∀ (s : St),
    (run s es).C = (serialExec s.C (commitLog s es)).1 ∧
    (run s es).sreads = s.sreads ++ (serialExec s.C (commitLog s es)).2 := by
  induction es with
  | nil => exact fun s => ⟨rfl, (List.append_nil _).symm⟩
  | cons e rest ih =>
    intro s
    obtain ⟨i1, i2⟩ := ih (step s e)
    cases e with
    | acq | act => exact ⟨i1, i2⟩
    | commit t => exact ⟨i1, i2.trans (List.append_assoc ..)⟩

end GoNfsd.Model.Serial
