import GoNfsd.Gen.Skeleton

/-! The discipline of M8d on the code: the call order of every function of package fstxn, regenerated on
    every run.  `Props/C03` reads the table as isolation, `Props/C14` as race freedom, `Props/C12` as
    "the inode written back is the locked one", `Props/C13` as "the directory listed is the locked one". -/
namespace GoNfsd.Model.Skeleton

theorem slotUses_checked : ∀ f ∈ GoNfsd.Gen.Skeleton.slotUses, slotCheck f = true := by
  decide +kernel

theorem lockInode_in_slotUses : ("LockInode", [(0, "Acquire"), (0, "LookupSlot")]) ∈ GoNfsd.Gen.Skeleton.slotUses := by
  decide +kernel

end GoNfsd.Model.Skeleton
