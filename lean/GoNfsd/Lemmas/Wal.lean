/- The write-ahead log M9.  The invariant `Inv` orders the counters of the protocol state and bounds every start and end
   value a crash may pick, durable or pending (`Inv.start_bounds`, `Inv.end_bounds`).  Hence every position of
   [start, end) is within one log length of all that has been written: its slot and its entry in the address table are
   still its own (`lastPos_window`, `no_slot_clash`), recovery reads back exactly the updates of [start, end)
   (`recovered_eq_seg`), and laid over the home blocks they give the specification after `end` updates (`crash_logical`). -/
import GoNfsd.Model.Wal
import GoNfsd.Lemmas.Steps

namespace GoNfsd.Model.Wal
open GoNfsd.Gen.Consts

variable {α : Type}

theorem lastPos_window (e p : Nat) (h1 : p < e) (h2 : e ≤ p + L) : lastPos e (p % L) = p := by
  unfold lastPos
  have hn : 0 < L := by decide
  generalize L = n at *
  -- `e` and `p` lie in the same block of `n` positions (then `p`'s slot is below `e`'s) or in neighbouring ones
  have he := Nat.div_add_mod e n
  have hp := Nat.div_add_mod p n
  have hr := Nat.mod_lt e hn
  have ht := Nat.mod_lt p hn
  have hle : p / n ≤ e / n := Nat.div_le_div_right (Nat.le_of_lt h1)
  have hle2 : e / n ≤ p / n + 1 := Nat.add_div_right p hn ▸ Nat.div_le_div_right (c := n) h2
  generalize e % n = r at *
  generalize p % n = t at *
  generalize e / n = a at *
  generalize p / n = b at *
  subst he hp
  rw [Nat.add_sub_cancel]
  rcases Nat.lt_or_ge b a with hlt | hge
  · cases Nat.le_antisymm hle2 hlt
    rw [Nat.mul_succ, Nat.add_right_comm _ t] at h2
    rw [Nat.mul_succ, if_neg (Nat.not_lt_of_le (Nat.le_of_add_le_add_left h2)), Nat.add_right_comm, Nat.add_sub_cancel]
  · cases Nat.le_antisymm hge hle
    rw [if_pos (Nat.lt_of_add_lt_add_left h1)]

/-- sharing a slot, their distance would be a positive multiple of `L` below `L` -/
theorem no_slot_clash (p q : Nat) (h1 : p < q) (h2 : q < p + L) : q % L ≠ p % L := fun e =>
  Nat.ne_of_gt (Nat.sub_pos_of_lt h1)
    ((Nat.mod_eq_of_lt (Nat.sub_lt_left_of_lt_add (Nat.le_of_lt h1) h2)).symm.trans (Nat.sub_mod_eq_zero_of_mod_eq e))

theorem applyUpds_append (m : Nat → α) (us vs : List (Upd α)) (a : Nat) :
    applyUpds m (us ++ vs) a = applyUpds (applyUpds m us) vs a := by
  induction us generalizing m with
  | nil => rfl
  | cons u us ih => exact ih _

theorem applyUpds_untouched (m : Nat → α) (us : List (Upd α)) (a : Nat) (h : ∀ u ∈ us, u.addr ≠ a) :
    applyUpds m us a = m a := by
  induction us generalizing m with
  | nil => rfl
  | cons u us ih => exact (ih _ fun v hv => h v (.tail _ hv)).trans (if_neg (Ne.symm (h u (.head _))))

theorem applyUpds_congr (m m' : Nat → α) (us : List (Upd α)) (a : Nat) (h : (∀ u ∈ us, u.addr ≠ a) → m a = m' a) :
    applyUpds m us a = applyUpds m' us a := by
  induction us generalizing m m' with
  | nil => exact h nofun
  | cons u us ih =>
    refine ih _ _ fun hus => ?_
    by_cases e : a = u.addr
    · simp only [if_pos e]
    · simp only [if_neg e]
      exact h fun w hw => (List.mem_cons.mp hw).elim (· ▸ Ne.symm e) (hus w)

theorem seg_split (U : Nat → Upd α) (lo mid hi : Nat) (h1 : lo ≤ mid) (h2 : mid ≤ hi) :
    seg U lo hi = seg U lo mid ++ seg U mid hi := by
  obtain ⟨k, rfl⟩ := Nat.exists_eq_add_of_le h1
  obtain ⟨j, rfl⟩ := Nat.exists_eq_add_of_le h2
  unfold seg
  rw [Nat.add_sub_cancel_left (n := lo + k), Nat.add_sub_cancel_left (n := lo) (m := k), Nat.add_assoc,
    Nat.add_sub_cancel_left, ← List.map_append, List.range'_append_1]

theorem mem_seg (U : Nat → Upd α) (lo hi : Nat) (u : Upd α) :
    u ∈ seg U lo hi ↔ ∃ p, lo ≤ p ∧ p < hi ∧ U p = u := by
  simp only [seg, List.mem_map, Steps.mem_range'_sub, and_assoc]

theorem spec_split (base : Nat → α) (U : Nat → Upd α) (s e : Nat) (h : s ≤ e) (a : Nat) :
    spec base U e a = applyUpds (spec base U s) (seg U s e) a := by
  unfold spec
  rw [seg_split U 0 s e (Nat.zero_le _) h, applyUpds_append]

theorem spec_succ (base : Nat → α) (U : Nat → Upd α) (e a : Nat) :
    spec base U (e + 1) a = if a = (U e).addr then (U e).blk else spec base U e a := by
  rw [spec_split base U e (e + 1) (Nat.le_succ e) a, seg, Nat.add_sub_cancel_left]
  rfl

/-- the protocol invariant: the durable start (header 2) is behind the durable home writes, the installer behind the
    durable end (header 1), that behind the durable slot writes, and no slot is written more than `L` positions past the
    durable start; a pending header value lies between the durable one and what the guard of its write allowed -/
def Inv (s : St) : Prop :=
  s.sD ≤ s.homeDur ∧ s.homeDur ≤ s.homeCur ∧ s.homeCur ≤ s.eD ∧ s.eD ≤ s.slotDur ∧
  s.slotDur ≤ s.slotEnd ∧ s.slotEnd ≤ s.sD + L ∧
  (∀ x ∈ s.pS, s.sD ≤ x ∧ x ≤ s.homeDur) ∧
  (∀ x ∈ s.pE, s.eD ≤ x ∧ x ≤ s.slotDur ∧ x ≤ s.sD + L)

theorem getLast_mem_or (l : List Nat) (d : Nat) : l.getLast?.getD d = d ∨ l.getLast?.getD d ∈ l := by
  cases h : l.getLast? with
  | none => left; rfl
  | some x => right; simp; exact List.mem_of_getLast? h

theorem Inv.start_bounds {s : St} (h : Inv s) {x : Nat} (hx : x = s.sD ∨ x ∈ s.pS) : s.sD ≤ x ∧ x ≤ s.homeDur :=
  hx.elim (fun e => e.symm ▸ ⟨Nat.le_refl _, h.1⟩) (h.2.2.2.2.2.2.1 x)

theorem Inv.end_bounds {s : St} (h : Inv s) {x : Nat} (hx : x = s.eD ∨ x ∈ s.pE) :
    s.eD ≤ x ∧ x ≤ s.slotDur ∧ x ≤ s.sD + L :=
  hx.elim (fun e => e.symm ▸ ⟨Nat.le_refl _, h.2.2.2.1, Nat.le_trans (Nat.le_trans h.2.2.2.1 h.2.2.2.2.1) h.2.2.2.2.2.1⟩)
    (h.2.2.2.2.2.2.2 x)

theorem sIssued_bounds (s : St) (h : Inv s) : s.sD ≤ s.sIssued ∧ s.sIssued ≤ s.homeDur :=
  h.start_bounds (getLast_mem_or s.pS s.sD)

theorem eIssued_bounds (s : St) (h : Inv s) : s.eD ≤ s.eIssued ∧ s.eIssued ≤ s.slotDur ∧ s.eIssued ≤ s.sD + L :=
  h.end_bounds (getLast_mem_or s.pE s.eD)

theorem crash_bounds (s : St) (U : Nat → Upd α) (c : Crash) (h : Inv s) (hv : c.valid s U) :
    s.sD ≤ c.start ∧ c.start ≤ s.homeDur ∧ s.eD ≤ c.endv ∧ c.endv ≤ s.slotDur ∧ c.endv ≤ s.sD + L :=
  ⟨(h.start_bounds hv.1).1, (h.start_bounds hv.1).2, h.end_bounds hv.2.1⟩

theorem init_inv : Inv init :=
  ⟨Nat.le_refl _, Nat.le_refl _, Nat.le_refl _, Nat.le_refl _, Nat.le_refl _, Nat.zero_le _, nofun, nofun⟩

theorem step_inv (s : St) (x : Step) (h : Inv s) (g : guard s x) : Inv (step s x) := by
  have hsI := sIssued_bounds s h
  have heI := eIssued_bounds s h
  obtain ⟨h1, h2, h3, h4, h5, h6, hS, hE⟩ := h
  -- (`dsimp` first: otherwise `step` is unfolded again for each of the eight components)
  cases x with
  | slot => dsimp only [step, Inv]; exact ⟨h1, h2, h3, h4, Nat.le_succ_of_le h5, g, hS, hE⟩
  | hdr1 e =>
    dsimp only [step, Inv]
    refine ⟨h1, h2, h3, h4, h5, h6, hS, fun y hy => ?_⟩
    rcases List.mem_append.mp hy with hy | hy
    · exact hE y hy
    · cases List.mem_singleton.mp hy; exact ⟨Nat.le_trans heI.1 g.1, g.2⟩
  | home => dsimp only [step, Inv]; exact ⟨h1, Nat.le_succ_of_le h2, g, h4, h5, h6, hS, hE⟩
  | hdr2 y =>
    dsimp only [step, Inv]
    refine ⟨h1, h2, h3, h4, h5, h6, fun z hz => ?_, hE⟩
    rcases List.mem_append.mp hz with hz | hz
    · exact hS z hz
    · cases List.mem_singleton.mp hz; exact ⟨Nat.le_trans hsI.1 g.1, g.2⟩
  | barrier =>
    dsimp only [step, Inv]
    exact ⟨Nat.le_trans hsI.2 h2, Nat.le_refl _, Nat.le_trans h3 heI.1, Nat.le_trans heI.2.1 h5, Nat.le_refl _,
      Nat.le_trans h6 (Nat.add_le_add_right hsI.1 L), nofun, nofun⟩

theorem restart_inv (s : St) (U : Nat → Upd α) (c : Crash) (h : Inv s) (hv : c.valid s U) : Inv (restart c) := by
  obtain ⟨b1, b2, b3, _, b5⟩ := crash_bounds s U c h hv
  exact ⟨Nat.le_refl _, Nat.le_refl _, Nat.le_trans b2 (Nat.le_trans h.2.1 (Nat.le_trans h.2.2.1 b3)), Nat.le_refl _,
    Nat.le_refl _, Nat.le_trans b5 (Nat.add_le_add_right b1 L), nofun, nofun⟩

theorem reach_inv (U : Nat → Upd α) (s : St) (h : Reach U s) : Inv s := by
  induction h with
  | init => exact init_inv
  | step s x _ g ih => exact step_inv s x ih g
  | crash s c _ hv ih => exact restart_inv s U c ih hv

theorem recovered_eq_seg (s : St) (U : Nat → Upd α) (c : Crash) (hinv : Inv s) (hv : c.valid s U) :
    recovered s U c = seg U c.start c.endv := by
  obtain ⟨hst, _, _, he1, he2⟩ := crash_bounds s U c hinv hv
  obtain ⟨_, _, _, _, h5, h6, _, _⟩ := hinv
  unfold recovered seg
  apply List.map_congr_left
  intro p hp
  rw [Steps.mem_range'_sub] at hp
  -- every position from `start` on is within one log length of whatever has been written
  have hw : s.slotEnd ≤ p + L := Nat.le_trans h6 (Nat.add_le_add_right (Nat.le_trans hst hp.1) L)
  have ha : crashAddr U c (p % L) = (U p).addr := by
    unfold crashAddr
    rw [lastPos_window c.endv p hp.2 (Nat.le_trans he1 (Nat.le_trans h5 hw))]
  -- the slot: no pending slot write lands on it, and the durable content is position p's
  have hs : crashSlot s U c (p % L) = (U p).blk := by
    unfold crashSlot
    split
    · rename_i q hq
      obtain ⟨q1, q2, q3⟩ := hv.2.2.1 _ q hq
      exact absurd q3 (no_slot_clash p q (Nat.lt_of_lt_of_le hp.2 (Nat.le_trans he1 q1)) (Nat.lt_of_lt_of_le q2 hw))
    · rw [lastPos_window s.slotDur p (Nat.lt_of_lt_of_le hp.2 he1) (Nat.le_trans h5 hw)]
  rw [ha, hs]

/-- the crash theorem behind `Props/C01.wal_crash_safe`; `c.endv` is the end value of whichever header-1 write survived -/
theorem crash_logical (s : St) (base : Nat → α) (U : Nat → Upd α) (c : Crash)
    (hr : Reach U s) (hv : c.valid s U) (a : Nat) :
    logical s base U c a = spec base U c.endv a := by
  have hinv := reach_inv U s hr
  obtain ⟨_, hst, hen, _, _⟩ := crash_bounds s U c hinv hv
  have hse : c.start ≤ c.endv := Nat.le_trans hst (Nat.le_trans hinv.2.1 (Nat.le_trans hinv.2.2.1 hen))
  unfold logical
  rw [recovered_eq_seg s U c hinv hv, spec_split base U c.start c.endv hse a]
  -- the home block of `a` matters only if no recovered update writes `a`
  refine applyUpds_congr _ _ _ a fun htouch => ?_
  have hnone : ∀ p, c.start ≤ p → p < c.endv → (U p).addr ≠ a :=
    fun p p1 p2 => htouch (U p) ((mem_seg U _ _ _).mpr ⟨p, p1, p2, rfl⟩)
  unfold crashHome
  split
  · rename_i q hq
    obtain ⟨q1, q2, q3⟩ := hv.2.2.2 a q hq
    exact absurd q3 (hnone q (Nat.le_trans hst q1) (Nat.lt_of_lt_of_le q2 hen))
  · rw [spec_split base U c.start s.homeDur hst a]
    apply applyUpds_untouched
    intro u hu
    obtain ⟨p, p1, p2, rfl⟩ := (mem_seg U _ _ _).mp hu
    exact hnone p p1 (Nat.lt_of_lt_of_le p2 (Nat.le_trans hinv.2.1 (Nat.le_trans hinv.2.2.1 hen)))

end GoNfsd.Model.Wal
