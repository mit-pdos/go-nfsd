/- Entries never move, and a live directory never loses slots: in the reference model M6 a live directory slot is, after one
   step, the same slot, a free slot, or gone with its directory — except that RENAME may put the new name into a slot it has
   just freed.  (The hypothesis of the dynamic enumeration theorem of C13: cookies are slot offsets.) -/
import GoNfsd.Lemmas.FsStep
import GoNfsd.Lemmas.Slots

namespace GoNfsd.Model.Fs
open GoNfsd.Gen.Consts

/-- what became of the entry `a` of slot `k`: still there, freed, or its directory gone -/
def Stays (a : Slot) (d' : Inode) (k : Nat) : Prop :=
  d'.slots[k]? = some a ∨ d'.slots[k]? = some freeSlot ∨ d'.kind = 0

theorem unlinked_stays (s : FS) (dino idx cino i k : Nat) (a : Slot) (h : (s.get i).slots[k]? = some a) :
    Stays a ((unlinked s dino idx cino).get i) k := by
  unfold Stays
  rw [unlinked_get]
  -- `i` is the freed object (third case), its directory (the slot kept or freed) or anyone else (kept)
  grind [remNameAt, freeInode, set_free_keeps_or_frees]

theorem moved_stays {s1 : FS} {fd fidx td slot fino : Nat} {tname : Bytes} {d' : Inode}
    (ha : addName ((s1.set fd (remNameAt (s1.get fd) fidx)).get td) slot fino tname = some d') (i k : Nat) (x : Slot)
    (h : (s1.get i).slots[k]? = some x) :
    (((s1.set fd (remNameAt (s1.get fd) fidx)).set td d').get i).slots[k]? = some x ∨
    (((s1.set fd (remNameAt (s1.get fd) fidx)).set td d').get i).slots[k]? = some freeSlot ∨
    ∃ b, (((s1.set fd (remNameAt (s1.get fd) fidx)).set td d').get i).slots[k]? = some b ∧ b.name = tname := by
  obtain ⟨⟨_, _, hok⟩, hs, _⟩ := addName_some _ _ _ _ _ ha
  have hmid : ((s1.set fd (remNameAt (s1.get fd) fidx)).get i).slots[k]? = some x ∨
      ((s1.set fd (remNameAt (s1.get fd) fidx)).get i).slots[k]? = some freeSlot := by
    rw [get_set]
    split
    · rename_i e; exact e ▸ set_free_keeps_or_frees _ fidx k x h
    · exact .inl h
  rw [get_set]
  split
  · rename_i e
    rw [hs, putSlot_get _ _ _ _ hok]
    split
    · exact .inr (.inr ⟨_, rfl, rfl⟩)
    · exact e ▸ hmid.imp_right .inl
  · exact hmid.imp_right .inl

theorem step_entries_stay (s : FS) (op : Op) (c : Choice) (i k : Nat) (a : Slot)
    (h : (s.get i).slots[k]? = some a) (ha : a.inum ≠ 0) (hl : (s.get i).kind ≠ 0) :
    Stays a ((step s op c).1.get i) k ∨
      ∃ ffh fname tfh tname b, op = .rename ffh fname tfh tname ∧ ((step s op c).1.get i).slots[k]? = some b ∧ b.name = tname := by
  have e := step_eff s op c
  generalize step s op c = p at e
  cases e with
  | same => exact .inl (.inl h)
  | data _ j x _ _ _ hx => exact .inl (.inl ((get_set_congr (·.slots) hx.slots i).symm ▸ h))
  | created _ _ _ _ _ dino _ _ g =>
    obtain ⟨⟨_, _, hok⟩, hs, _⟩ := addName_some _ _ _ _ _ g.add
    refine .inl (.inl ?_)
    -- the new name goes to a slot that is not live; the new inode takes a number that was not
    rw [get_set2]
    split
    · rename_i e; rw [hs]; exact putSlot_keeps_live _ _ _ _ _ hok (e ▸ h) ha
    · rw [if_neg fun e : i = c.inum => hl (e ▸ g.free)]; exact h
  | removed => exact .inl (unlinked_stays _ _ _ _ _ _ _ h)
  | renamed ffh fname tfh tname fd td _ _ s1 _ g =>
    have hadd := g.add
    have hk := (moved_kind_gen hadd i).1
    have h1 : Stays a (s1.get i) k := by
      rcases g.target with ⟨_, rfl⟩ | ⟨_, _, _, rfl⟩
      · exact .inl h
      · exact unlinked_stays _ _ _ _ _ _ _ h
    dsimp only
    rcases h1 with h1 | h1 | h1
    · rcases moved_stays hadd i k a h1 with h2 | h2 | ⟨b, h2, hb⟩
      · exact .inl (.inl h2)
      · exact .inl (.inr (.inl h2))
      · exact .inr ⟨ffh, fname, tfh, tname, b, rfl, h2, hb⟩
    · rcases moved_stays hadd i k freeSlot h1 with h2 | h2 | ⟨b, h2, hb⟩
      · exact .inl (.inr (.inl h2))
      · exact .inl (.inr (.inl h2))
      · exact .inr ⟨ffh, fname, tfh, tname, b, rfl, h2, hb⟩
    · exact .inl (.inr (.inr (hk ▸ h1)))

/-- a slot list does not get shorter unless its inode is freed -/
def Grows (a b : Inode) : Prop := b.kind = 0 ∨ a.slots.length ≤ b.slots.length

theorem unlinked_grows (s : FS) (dino idx cino i : Nat) : Grows (s.get i) ((unlinked s dino idx cino).get i) := by
  unfold Grows
  rw [unlinked_get]
  -- the freed object has kind 0; clearing a slot keeps the length; anyone else is untouched
  grind [remNameAt, freeInode, List.length_set]

theorem moved_grows {s1 : FS} {fd fidx td slot fino : Nat} {tname : Bytes} {d' : Inode}
    (ha : addName ((s1.set fd (remNameAt (s1.get fd) fidx)).get td) slot fino tname = some d') (i : Nat) :
    (s1.get i).slots.length ≤ (((s1.set fd (remNameAt (s1.get fd) fidx)).set td d').get i).slots.length := by
  obtain ⟨_, hs, _⟩ := addName_some _ _ _ _ _ ha
  clear ha
  have := putSlot_length ((s1.set fd (remNameAt (s1.get fd) fidx)).get td).slots slot ⟨fino, tname⟩
  -- clearing a slot of `fd` keeps its length, `putSlot` in `td` does not shorten, anyone else is untouched
  grind [get_set, remNameAt, List.length_set]

theorem step_grows (s : FS) (op : Op) (c : Choice) (i : Nat) (hl : (s.get i).kind ≠ 0) :
    Grows (s.get i) ((step s op c).1.get i) := by
  have e := step_eff s op c
  generalize step s op c = p at e
  cases e with
  | same => exact .inr (Nat.le_refl _)
  | data _ j x _ _ _ hx => exact .inr (Nat.le_of_eq (congrArg List.length (get_set_congr (·.slots) hx.slots i)).symm)
  | created _ _ _ _ _ dino _ _ g =>
    obtain ⟨_, hs, _⟩ := addName_some _ _ _ _ _ g.add
    refine .inr ?_
    rw [get_set2]
    split
    · rename_i e; rw [hs, e]; exact putSlot_length _ _ _
    · rw [if_neg fun e : i = c.inum => hl (e ▸ g.free)]; exact Nat.le_refl _
  | removed => exact unlinked_grows _ _ _ _ _
  | renamed _ _ _ _ _ _ _ _ s1 _ g =>
    have hk := (moved_kind_gen g.add i).1
    have h2 := moved_grows g.add i
    rcases g.target with ⟨_, rfl⟩ | ⟨_, _, _, rfl⟩
    · exact .inr h2
    · rcases unlinked_grows s _ _ _ i with h1 | h1
      · exact .inl (hk ▸ h1)
      · exact .inr (Nat.le_trans h1 h2)

end GoNfsd.Model.Fs
