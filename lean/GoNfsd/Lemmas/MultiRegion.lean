import GoNfsd.Lemmas.MultiShrink
import GoNfsd.Lemmas.InoOps
import GoNfsd.Lemmas.FsckBridge

/-! Every pointer of every file lies in the region the allocator's numbers come from: an invariant
    of every history of mappings, truncations and reuse (M7m), and — on the image — the checker's
    "pointers inside the data region" (`chkPtrs`). -/
namespace GoNfsd.Model.BlockMap
open GoNfsd.Gen.Consts GoNfsd.Model.Fsck

/-- every pointer of every file, and every block the allocator will hand out, lies in `[lo, hi)` -/
structure InRegion (lo hi : Nat) (s : S) (roots : Nat → List Nat) : Prop where
  ptrs : ∀ a p, p.valid → ptr s.st (roots a) p ≠ 0 → lo ≤ ptr s.st (roots a) p ∧ ptr s.st (roots a) p < hi
  allocs : ∀ x ∈ s.allocs, x ≠ 0 → lo ≤ x ∧ x < hi

theorem InRegion.step {lo hi : Nat} {s s' : S} {roots : Nat → List Nat} {a : Nat} {blks' : List Nat}
    (hr : InRegion lo hi s roots) (h : MWF s roots) (hs : FileStep s s' (roots a) blks') :
    InRegion lo hi s' (setRoots roots a blks') := by
  refine ⟨fun f p hp hne => ?_, fun x hx => hr.allocs x (hs.allocs hx)⟩
  rcases hs.origin h f p hp hne with e | ⟨_, m⟩
  · rw [e] at hne ⊢; exact hr.ptrs f p hp hne
  · exact hr.allocs _ m hne

/-- what a recycling step hands back to the allocator lies in the region as well -/
def RecycleInRegion (lo hi : Nat) : List MOp → Prop
  | [] => True
  | .recycle L :: rest => (∀ x ∈ L, x ≠ 0 → lo ≤ x ∧ x < hi) ∧ RecycleInRegion lo hi rest
  | _ :: rest => RecycleInRegion lo hi rest

theorem mhistory_region (lo hi : Nat) (ops : List MOp) : ∀ (sr : S × (Nat → List Nat)), MWF sr.1 sr.2 → MValid sr ops →
    RecycleInRegion lo hi ops → InRegion lo hi sr.1 sr.2 →
    InRegion lo hi (ops.foldl mapply sr).1 (ops.foldl mapply sr).2 := by
  induction ops with
  | nil => intro sr _ _ _ hr; exact hr
  | cons op rest ih =>
    intro sr h hv hrec hr
    have hwf := mapply_wf sr op rest h hv
    cases op with
    | map a bn => exact ih _ hwf hv.2 hrec (hr.step h (bmap_fileStep sr.1 (sr.2 a) bn (h.file a) hv.1))
    | shrink a T N =>
      exact ih _ hwf hv.2 hrec (hr.step h (shrinkTo_fileStep sr.1 (sr.2 a) T N (h.file a) hv.1.1 hv.1.2))
    | recycle L =>
      refine ih _ hwf hv.2 hrec.2 ⟨hr.ptrs, fun x hx hx0 => ?_⟩
      exact (List.mem_append.mp hx).elim (hr.allocs x · hx0) (hrec.1 x · hx0)

def imageOfSz (sz : Nat) (st : Store) (files : List (Nat × List Nat)) : Image := { imageOf st files with sz := sz }

theorem imageOf_ptrs_in_region (sz : Nat) (s : S) (roots : Nat → List Nat) (h : MWF s roots)
    (hr : InRegion (GoNfsd.Gen.Super.MkFsSuper sz).DataStart sz s roots) (files : List Nat) :
    chkPtrs (imageOfSz sz s.st (files.map fun a => (a, roots a))) = true := by
  -- the disk size plays no part in who owns what
  rw [chkPtrs, show allOwned (imageOfSz sz s.st _) = _ from allOwned_imageOf s.st roots h.len files, List.all_eq_true]
  intro b hb
  obtain ⟨a, _, hb⟩ := List.mem_flatMap.1 hb
  obtain ⟨hb, hb0⟩ := mem_nz.1 hb
  obtain ⟨p, hp, rfl⟩ := List.mem_map.1 hb
  rw [Bool.and_eq_true, decide_eq_true_eq, decide_eq_true_eq]
  exact hr.ptrs a p (posList_valid p hp) hb0

theorem region_empty (lo hi : Nat) (allocs : List Nat) (ha : ∀ x ∈ allocs, x ≠ 0 → lo ≤ x ∧ x < hi) :
    InRegion lo hi { st := emptyStore, allocs := allocs } (fun _ => List.replicate (NDIRECT + 2) 0) :=
  ⟨fun _ p _ hne => absurd (ptr_empty p) hne, ha⟩

/-- the image of regular files given as model inodes (pointers, size, ShrinkSize) -/
def imageOfInos (st : Store) (files : List (Nat × Ino)) : Image :=
  { imageOf st (files.map fun f => (f.1, f.2.blks)) with
    inodes := files.map fun f => { inum := f.1, kind := 1, nlink := 1, gen := 0, size := f.2.size, shrink := f.2.shrink, blks := f.2.blks } }

theorem indOf_imageOfInos (st : Store) (files : List (Nat × Ino)) (b : Nat) :
    indOf (imageOfInos st files) b = indOf (imageOf st (files.map fun f => (f.1, f.2.blks))) b := rfl

end GoNfsd.Model.BlockMap
