import GoNfsd.Lemmas.FileData
import GoNfsd.Lemmas.Codec

/-! M7e: a directory is a file of 128-byte slots.  The slot list of the reference model M6 is the
    decoding (`dir.decodeDirEnt`, model M3) of the bytes of the block-level file M7d, and the one
    write `AddNameDir` / `RemNameDir` issue is `putSlot` on that list. -/
namespace GoNfsd.Model.FileData
open GoNfsd.Model.Fs (Slot putSlot freeSlot)
open GoNfsd.Model.Codec (encodeDirEnt decodeDirEnt)
open GoNfsd.Gen.Consts

def DS : Nat := 128

theorem DS_is_the_slot_size : DS = DIRENTSZ := rfl

/-- `decodeDirEnt` of the 128 bytes of slot `k` (a slot that does not decode — the Go code
    panics — is shown as free) -/
def slotAt (f : F) (k : Nat) : Slot :=
  match decodeDirEnt (f.read (k * DS) DS) with
  | some (i, n) => { inum := i, name := n }
  | none => freeSlot

def slotsOf (f : F) : List Slot := (List.range (f.size / DS)).map (slotAt f)

theorem slotsOf_length (f : F) : (slotsOf f).length = f.size / DS := by
  rw [slotsOf, List.length_map, List.length_range]

/-- writing one entry changes its slot and no other -/
theorem slotAt_write (f : F) (fresh : Nat → Nat) (slot inum : Nat) (name : List UInt8)
    (h : Inv f) (hf : FreshOK f fresh) (hi : inum < 2 ^ 64) (hn : name.length ≤ MAXNAMELEN) (k : Nat) :
    slotAt (f.write fresh (slot * DS) (encodeDirEnt inum name)) k =
      if k = slot then { inum := inum, name := name } else slotAt f k := by
  obtain ⟨hdec, (hlen : _ = DS)⟩ := GoNfsd.Model.Codec.decode_encode_dirent inum name hi hn
  unfold slotAt
  by_cases hk : k = slot
  · have := read_written f fresh (slot * DS) (encodeDirEnt inum name) h hf
    rw [hlen] at this
    rw [if_pos hk, hk, this, hdec]
  · rw [if_neg hk, read_beside f fresh (slot * DS) _ h hf (k * DS) DS
      ((Nat.lt_or_gt_of_ne hk).imp (fun hlt => Nat.succ_mul .. ▸ Nat.mul_le_mul_right DS hlt)
        fun hlt => by rw [hlen]; exact Nat.succ_mul .. ▸ Nat.mul_le_mul_right DS hlt)]

theorem putSlot_map_range (h : Nat → Slot) (L s : Nat) (e : Slot) (hs : s ≤ L) :
    (List.range (max L (s + 1))).map (fun k => if k = s then e else h k) =
      putSlot ((List.range L).map h) s e := by
  unfold putSlot
  rw [List.length_map, List.length_range]
  by_cases hL : s = L
  · subst hL
    rw [if_pos rfl, Nat.max_eq_right (Nat.le_succ s), List.range_succ, List.map_append]
    congr 1
    · exact List.map_congr_left fun k hk => if_neg (Nat.ne_of_lt (List.mem_range.1 hk))
    · simp
  · rw [if_neg hL, Nat.max_eq_left (Nat.lt_of_le_of_ne hs hL)]
    apply List.ext_getElem (by simp)
    intro k _ _
    simp only [List.getElem_map, List.getElem_range, List.getElem_set, eq_comm]

theorem slot_write_is_putSlot (f : F) (fresh : Nat → Nat) (slot inum : Nat) (name : List UInt8)
    (h : Inv f) (hf : FreshOK f fresh) (L : Nat) (hsz : f.size = L * DS) (hslot : slot ≤ L)
    (hi : inum < 2 ^ 64) (hn : name.length ≤ MAXNAMELEN) :
    slotsOf (f.write fresh (slot * DS) (encodeDirEnt inum name)) =
      putSlot (slotsOf f) slot { inum := inum, name := name } ∧
    (f.write fresh (slot * DS) (encodeDirEnt inum name)).size =
      (putSlot (slotsOf f) slot { inum := inum, name := name }).length * DS := by
  have hlen : (encodeDirEnt inum name).length = DS := (GoNfsd.Model.Codec.decode_encode_dirent inum name hi hn).2
  have hg : (f.write fresh (slot * DS) (encodeDirEnt inum name)).size = max L (slot + 1) * DS := by
    rw [write_size, hlen, hsz, ← Nat.succ_mul, Nat.mul_max_mul_right]
  have key : slotsOf (f.write fresh (slot * DS) (encodeDirEnt inum name)) =
      putSlot (slotsOf f) slot { inum := inum, name := name } := by
    unfold slotsOf
    rw [hg, hsz, Nat.mul_div_cancel _ (by decide), Nat.mul_div_cancel _ (by decide),
      ← putSlot_map_range _ _ _ _ hslot]
    exact List.map_congr_left fun k _ => slotAt_write f fresh slot inum name h hf hi hn k
  refine ⟨key, ?_⟩
  rw [← key, slotsOf_length, hg, Nat.mul_div_cancel _ (by decide)]

/-- `RemNameDir`: the free entry written over slot `idx` -/
theorem slot_clear_is_set (f : F) (fresh : Nat → Nat) (idx : Nat) (h : Inv f) (hf : FreshOK f fresh)
    (L : Nat) (hsz : f.size = L * DS) (hidx : idx < L) :
    slotsOf (f.write fresh (idx * DS) (encodeDirEnt 0 [])) = (slotsOf f).set idx freeSlot := by
  rw [(slot_write_is_putSlot f fresh idx 0 [] h hf L hsz (Nat.le_of_lt hidx) (by decide) (by simp)).1]
  refine if_neg ?_
  rw [slotsOf_length, hsz, Nat.mul_div_cancel _ (by decide)]
  exact Nat.ne_of_lt hidx

inductive DirOp where
  | put (fresh : Nat → Nat) (slot inum : Nat) (name : List UInt8)   -- AddNameDir (also InitDir's two entries)
  | clear (fresh : Nat → Nat) (idx : Nat)                          -- RemNameDir

def F.dirApply (f : F) : DirOp → F
  | .put fresh slot inum name => f.write fresh (slot * DS) (encodeDirEnt inum name)
  | .clear fresh idx => f.write fresh (idx * DS) (encodeDirEnt 0 [])

/-- what the reference model does to the slot list (`addName`, `remNameAt`) -/
def slotApply (S : List Slot) : DirOp → List Slot
  | .put _ slot inum name => putSlot S slot { inum := inum, name := name }
  | .clear _ idx => S.set idx freeSlot

/-- what the callers guarantee -/
def DirAllowed : F → List DirOp → Prop
  | _, [] => True
  | f, op :: rest =>
    (match op with
      | .put fresh slot inum name => FreshOK f fresh ∧ slot ≤ f.size / DS ∧ inum < 2 ^ 64 ∧ name.length ≤ MAXNAMELEN
      | .clear fresh idx => FreshOK f fresh ∧ idx < f.size / DS) ∧
    DirAllowed (f.dirApply op) rest

theorem dir_history_refines (ops : List DirOp) :
    ∀ (f : F), Inv f → (∃ L, f.size = L * DS) → DirAllowed f ops →
      Inv (ops.foldl F.dirApply f) ∧
      slotsOf (ops.foldl F.dirApply f) = ops.foldl slotApply (slotsOf f) ∧
      (ops.foldl F.dirApply f).size = (ops.foldl slotApply (slotsOf f)).length * DS := by
  induction ops with
  | nil =>
    intro f hi ⟨L, hL⟩ _
    refine ⟨hi, rfl, ?_⟩
    show f.size = (slotsOf f).length * DS
    rw [slotsOf_length, hL, Nat.mul_div_cancel _ (by decide)]
  | cons op rest ih =>
    intro f hi ⟨L, hL⟩ ha
    have hLd : f.size / DS = L := by rw [hL]; exact Nat.mul_div_cancel _ (by decide)
    have step : Inv (f.dirApply op) ∧ slotsOf (f.dirApply op) = slotApply (slotsOf f) op ∧
        ∃ L', (f.dirApply op).size = L' * DS := by
      cases op with
      | put fresh slot inum name =>
        obtain ⟨hf, hs, hin, hn⟩ := ha.1
        obtain ⟨h1, h2⟩ := slot_write_is_putSlot f fresh slot inum name hi hf L hL (hLd ▸ hs) hin hn
        exact ⟨write_inv f fresh _ _ hi hf, h1, _, h2⟩
      | clear fresh idx =>
        obtain ⟨hf, hs⟩ := ha.1
        exact ⟨write_inv f fresh _ _ hi hf, slot_clear_is_set f fresh idx hi hf L hL (hLd ▸ hs),
          _, (slot_write_is_putSlot f fresh idx 0 [] hi hf L hL (Nat.le_of_lt (hLd ▸ hs)) (by decide) (by simp)).2⟩
    have := ih (f.dirApply op) step.1 step.2.2 ha.2
    rw [step.2.1] at this
    exact this

end GoNfsd.Model.FileData
