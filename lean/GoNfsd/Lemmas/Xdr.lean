/- The XDR codec model, layer by layer: big-endian words and `takeN`, then, for every descriptor
   constructor and every loop of the decoder, what a SUCCESSFUL decode looks like (`dec_u32` ...
   `decChain_succ`).  The inductions over descriptors in the other Xdr files use these and do not unfold `dec`. -/
import GoNfsd.Model.Xdr

namespace GoNfsd.Model.Xdr

@[simp] theorem be_length (k n : Nat) : (be k n).length = k := by
  induction k generalizing n with
  | zero => rfl
  | succ k ih => exact congrArg (· + 1) (ih _)

@[simp] theorem zeros_length (n : Nat) : (zeros n).length = n := List.length_replicate

/-- the loop of `beNat` is linear in its accumulator -/
theorem foldl_add (x y : Nat) (bs : List UInt8) :
    bs.foldl (fun acc b => acc * 256 + b.toNat) (x + y)
      = bs.foldl (fun acc b => acc * 256 + b.toNat) x + 256 ^ bs.length * y := by
  induction bs generalizing x y with
  | nil => exact congrArg _ (Nat.one_mul y).symm
  | cons b bs ih =>
    rw [List.foldl_cons, Nat.add_mul, Nat.add_right_comm, ih, List.length_cons, Nat.pow_succ, Nat.mul_assoc,
      Nat.mul_comm 256]
    rfl

theorem beNat_cons (b : UInt8) (bs : List UInt8) :
    beNat (b :: bs) = beNat bs + 256 ^ bs.length * b.toNat := by
  unfold beNat
  rw [List.foldl_cons, Nat.zero_mul, foldl_add]

theorem beNat_be (k n : Nat) (h : n < 256 ^ k) : beNat (be k n) = n := by
  induction k generalizing n with
  | zero => exact (Nat.lt_one_iff.mp h).symm
  | succ k ih =>
    have hpos : 0 < 256 ^ k := Nat.pow_pos (by decide)
    rw [be, beNat_cons, be_length, ih _ (Nat.mod_lt _ hpos), UInt8.toNat_ofNat_of_lt' (Nat.mod_lt _ (by decide)),
      Nat.mod_eq_of_lt ((Nat.div_lt_iff_lt_mul hpos).mpr (Nat.pow_succ' ▸ h)), Nat.mod_add_div]

/-- a word of `k` bytes is a number below `256 ^ k`, which `be k` writes back: the first byte is the
    quotient by `256 ^ (k - 1)`, the rest the remainder -/
theorem beNat_word : ∀ w : List UInt8, beNat w < 256 ^ w.length ∧ be w.length (beNat w) = w
  | [] => ⟨Nat.one_pos, rfl⟩
  | b :: bs => by
    have ⟨hlt, ih⟩ := beNat_word bs
    have hpos : 0 < 256 ^ bs.length := Nat.pow_pos (by decide)
    have hb : b.toNat < 256 := b.toNat_lt
    obtain ⟨h1, h2⟩ := (Nat.div_mod_unique (d := b.toNat) hpos).mpr ⟨rfl, hlt⟩
    rw [beNat_cons, List.length_cons]
    constructor
    · rw [Nat.pow_succ']
      exact (Nat.div_lt_iff_lt_mul hpos).mp (h1.symm ▸ hb)
    · rw [be, h1, h2, ih, Nat.mod_eq_of_lt hb, UInt8.ofNat_toNat]

theorem beNat_lt {k : Nat} {w : List UInt8} (h : w.length = k) : beNat w < 256 ^ k := h ▸ (beNat_word w).1

theorem be_beNat {k : Nat} {w : List UInt8} (h : w.length = k) : be k (beNat w) = w := h ▸ (beNat_word w).2

theorem lenOk_lt {max : Option Nat} {n : Nat} (h : lenOk max n = true) : n < 256 ^ 4 :=
  of_decide_eq_true (Bool.and_eq_true_iff.mp h).1

theorem takeN_some {n : Nat} {bs a r : List UInt8} :
    takeN n bs = some (a, r) ↔ bs = a ++ r ∧ a.length = n := by
  simp only [takeN, Option.ite_none_left_eq_some, Option.some.injEq, Prod.mk.injEq, Nat.not_lt]
  constructor
  · rintro ⟨h, rfl, rfl⟩; simp [h]
  · rintro ⟨rfl, rfl⟩; simp

theorem takeN_ext {n : Nat} {bs a r : List UInt8} (ext : List UInt8) (h : takeN n bs = some (a, r)) :
    takeN n (bs ++ ext) = some (a, r ++ ext) := by
  obtain ⟨rfl, hl⟩ := takeN_some.mp h
  exact takeN_some.mpr ⟨List.append_assoc .., hl⟩

theorem takeN_append {n : Nat} (a rest : List UInt8) (h : a.length = n) :
    takeN n (a ++ rest) = some (a, rest) := takeN_some.mpr ⟨rfl, h⟩

theorem takeN_len {n : Nat} {bs a r : List UInt8} (h : takeN n bs = some (a, r)) :
    r.length + n = bs.length ∧ a.length = n := by
  obtain ⟨rfl, hl⟩ := takeN_some.mp h
  exact ⟨by rw [List.length_append, hl, Nat.add_comm], hl⟩

/-! ### what a successful decode looks like, constructor by constructor

Every decoder is put together from a few constructs: a `match` on the result of a first step, a guard,
a two-way choice, a wrapped result.  Each construct has one lemma saying when it yields `some c`, given when
its parts do; the lemma's `match` has the shape of the decoder's, so it applies to the unfolded decoder as it
stands, and the statement about a constructor is the composition of the lemmas of its constructs. -/

section
variable {γ : Type} {c : γ} {p : Prop} [Decidable p] {P Q : Prop}

/-- a result wrapped -/
theorem map_pair {α β : Type} {o : Option (α × β)} {f : α → γ} {r : β} :
    (o.map fun (a, r') => (f a, r')) = some (c, r) ↔ ∃ a, o = some (a, r) ∧ f a = c := by
  rcases o with _ | ⟨a, b⟩
  · exact ⟨nofun, nofun⟩
  · exact ⟨fun h => by cases h; exact ⟨a, rfl, rfl⟩, fun ⟨_, h, hf⟩ => by cases h; cases hf; rfl⟩

/-- some bytes taken off the front, then a continuation -/
theorem take_some {o : Option (List UInt8 × List UInt8)} {k : List UInt8 → List UInt8 → Option γ}
    {P : List UInt8 → List UInt8 → Prop} (hk : ∀ a b, k a b = some c ↔ P a b) :
    (match o with | none => none | some (a, b) => k a b) = some c ↔ ∃ a b, o = some (a, b) ∧ P a b := by
  rcases o with _ | ⟨a, b⟩
  · exact ⟨nofun, nofun⟩
  · exact ⟨fun h => ⟨a, b, rfl, (hk a b).mp h⟩, fun ⟨_, _, h, hp⟩ => by cases h; exact (hk _ _).mpr hp⟩

theorem guard_some {o : Option γ} (h : o = some c ↔ P) : (if p then o else none) = some c ↔ p ∧ P :=
  Option.ite_none_right_eq_some.trans (and_congr_right fun _ => h)

theorem ite_some {o₁ o₂ : Option γ} (h₁ : o₁ = some c ↔ P) (h₂ : o₂ = some c ↔ Q) :
    (if p then o₁ else o₂) = some c ↔ p ∧ P ∨ ¬p ∧ Q := by
  split <;> simp [*]

/-- the arm a discriminant selects, or what is done without one -/
theorem arm_some {o : Option (Option (Val × List UInt8))} {f : Option (Val × List UInt8) → Option γ} {z : Option γ}
    {P : Option (Val × List UInt8) → Prop} (hf : ∀ res, f res = some c ↔ P res) (hz : z = some c ↔ Q) :
    (match o with | some res => f res | none => z) = some c ↔ (∃ res, o = some res ∧ P res) ∨ o = none ∧ Q := by
  cases o <;> simp [hf, hz]

/-- one value, then the rest of a list of values -/
theorem cons_some {o : Option (Val × List UInt8)} {k : List UInt8 → Option (List Val × List UInt8)}
    {vs : List Val} {r : List UInt8} :
    (match o with
      | none => none
      | some (x, r1) => match k r1 with | none => none | some (xs, r') => some (x :: xs, r')) = some (vs, r) ↔
    ∃ x r1 xs, o = some (x, r1) ∧ k r1 = some (xs, r) ∧ x :: xs = vs := by
  rcases o with _ | ⟨x, r1⟩
  · exact ⟨nofun, nofun⟩
  dsimp only
  constructor
  · intro h
    rcases hk : k r1 with _ | ⟨xs, r'⟩ <;> rw [hk] at h <;> cases h
    exact ⟨x, r1, xs, rfl, hk, rfl⟩
  · rintro ⟨_, _, xs, ⟨⟩, hk, rfl⟩
    rw [hk]

end

variable {bs r : List UInt8} {v : Val}

theorem dec_u32 : dec .u32 bs = some (v, r) ↔ ∃ w, takeN 4 bs = some (w, r) ∧ .num (beNat w) = v :=
  map_pair (o := takeN 4 bs) (f := fun w => Val.num (beNat w))

theorem dec_u64 : dec .u64 bs = some (v, r) ↔ ∃ w, takeN 8 bs = some (w, r) ∧ .num (beNat w) = v :=
  map_pair (o := takeN 8 bs) (f := fun w => Val.num (beNat w))

theorem dec_bool : dec .bool bs = some (v, r) ↔ ∃ w, takeN 4 bs = some (w, r) ∧ .bool (beNat w != 0) = v :=
  map_pair (o := takeN 4 bs) (f := fun w => Val.bool (beNat w != 0))

theorem dec_struct {fs : List Ty} : dec (.struct fs) bs = some (v, r) ↔
    ∃ vs, decFields fs bs = some (vs, r) ∧ .struct vs = v :=
  map_pair (o := decFields fs bs) (f := Val.struct)

theorem dec_chain {elem : List Ty} : dec (.chain elem) bs = some (v, r) ↔
    ∃ vs, decChainWith (dec (.struct elem)) bs.length bs = some (vs, r) ∧ .list vs = v :=
  map_pair (o := decChainWith (dec (.struct elem)) bs.length bs) (f := Val.list)

/-- `dec (.str max)` and `dec (.opaqueVar max)` are `decBytes max` by definition -/
theorem decBytes_some {max : Option Nat} : decBytes max bs = some (v, r) ↔
    ∃ w r1, takeN 4 bs = some (w, r1) ∧ lenOk max (beNat w) = true ∧
      ∃ d r2, takeN (beNat w) r1 = some (d, r2) ∧ ∃ p, takeN (padLen (beNat w)) r2 = some (p, r) ∧ .bytes d = v :=
  take_some fun _ _ => guard_some (take_some fun d _ => map_pair (f := fun _ => Val.bytes d))

theorem dec_opaqueFix {n : Nat} : dec (.opaqueFix n) bs = some (v, r) ↔
    ∃ d r1, takeN n bs = some (d, r1) ∧ ∃ p, takeN (padLen n) r1 = some (p, r) ∧ .bytes d = v :=
  take_some fun d _ => map_pair (f := fun _ => Val.bytes d)

theorem dec_arrU32 {max : Option Nat} : dec (.arrU32 max) bs = some (v, r) ↔
    ∃ w r1, takeN 4 bs = some (w, r1) ∧ lenOk max (beNat w) = true ∧
      ∃ ns, decNums (beNat w) r1 = some (ns, r) ∧ .nums ns = v :=
  take_some fun _ _ => guard_some (map_pair (f := Val.nums))

theorem decNums_succ {k : Nat} {ns : List Nat} : decNums (k + 1) bs = some (ns, r) ↔
    ∃ w r1, takeN 4 bs = some (w, r1) ∧ ∃ ns', decNums k r1 = some (ns', r) ∧ beNat w :: ns' = ns :=
  take_some fun w r1 => by
    rcases decNums k r1 with _ | ⟨ns', r'⟩
    · exact ⟨nofun, nofun⟩
    · exact ⟨fun h => by cases h; exact ⟨ns', rfl, rfl⟩, fun ⟨_, h, e⟩ => by cases h; cases e; rfl⟩

theorem decFields_cons {t : Ty} {ts : List Ty} {vs : List Val} : decFields (t :: ts) bs = some (vs, r) ↔
    ∃ x r1 xs, dec t bs = some (x, r1) ∧ decFields ts r1 = some (xs, r) ∧ x :: xs = vs := cons_some

/-- a discriminant with an arm decodes that arm; one without decodes the default arm, or, where
    the union has none, an empty body (the leniency recorded as a finding) -/
theorem dec_unionU32 {ks : List Nat} {arms : List Ty} {hd : Bool} {d : Ty} :
    dec (.unionU32 ks arms hd d) bs = some (v, r) ↔ ∃ w r1, takeN 4 bs = some (w, r1) ∧
      ((∃ res, decArm ks arms (beNat w) r1 = some res ∧ ∃ x, res = some (x, r) ∧ .union (beNat w) x = v) ∨
       decArm ks arms (beNat w) r1 = none ∧
         (hd = true ∧ (∃ x, dec d r1 = some (x, r) ∧ .union (beNat w) x = v) ∨
          ¬hd = true ∧ .union (beNat w) (.struct []) = v ∧ r1 = r)) :=
  take_some fun w _ => arm_some (fun _ => map_pair (f := Val.union (beNat w)))
    (ite_some (map_pair (f := Val.union (beNat w))) (Option.some_inj.trans Prod.ext_iff))

theorem dec_unionBool {t f : Ty} :
    dec (.unionBool t f) bs = some (v, r) ↔ ∃ w r1, takeN 4 bs = some (w, r1) ∧
      ((beNat w != 0) = true ∧ (∃ x, dec t r1 = some (x, r) ∧ .bunion true x = v) ∨
       ¬(beNat w != 0) = true ∧ ∃ x, dec f r1 = some (x, r) ∧ .bunion false x = v) :=
  take_some fun _ _ => ite_some (map_pair (f := Val.bunion true)) (map_pair (f := Val.bunion false))

theorem decChain_succ {de : List UInt8 → Option (Val × List UInt8)} {fuel : Nat} {vs : List Val} :
    decChainWith de (fuel + 1) bs = some (vs, r) ↔ ∃ w r1, takeN 4 bs = some (w, r1) ∧
      (beNat w = 0 ∧ [] = vs ∧ r1 = r ∨ ¬beNat w = 0 ∧
        ∃ x r2 xs, de r1 = some (x, r2) ∧ decChainWith de fuel r2 = some (xs, r) ∧ x :: xs = vs) :=
  take_some fun _ _ => ite_some (Option.some_inj.trans Prod.ext_iff) cons_some

theorem decArm_cons {k : Nat} {ks : List Nat} {t : Ty} {ts : List Ty} {d : Nat} {bs : List UInt8} :
    decArm (k :: ks) (t :: ts) d bs = if k = d then some (dec t bs) else decArm ks ts d bs := rfl

theorem encArm_cons {k : Nat} {ks : List Nat} {t : Ty} {ts : List Ty} {d : Nat} {v : Val} :
    encArm (k :: ks) (t :: ts) d v = if k = d then some (enc t v) else encArm ks ts d v := rfl

theorem both_some {o₁ o₂ : Option (List UInt8)} {f : List UInt8 → List UInt8 → List UInt8} {c : List UInt8} :
    (match o₁, o₂ with | some a, some b => some (f a b) | _, _ => none) = some c ↔
      ∃ a b, o₁ = some a ∧ o₂ = some b ∧ f a b = c := by
  cases o₁ <;> cases o₂ <;> simp

theorem encFields_cons {t : Ty} {ts : List Ty} {v : Val} {vs : List Val} {c : List UInt8} :
    encFields (t :: ts) (v :: vs) = some c ↔
      ∃ a b, enc t v = some a ∧ encFields ts vs = some b ∧ a ++ b = c := both_some

theorem encChain_cons {ee : Val → Option (List UInt8)} {v : Val} {vs : List Val} {c : List UInt8} :
    encChainWith ee (v :: vs) = some c ↔
      ∃ a b, ee v = some a ∧ encChainWith ee vs = some b ∧ be 4 1 ++ a ++ b = c := both_some

theorem encNums_cons {n : Nat} {ns : List Nat} {c : List UInt8} :
    encNums (n :: ns) = some c ↔ n < 2 ^ 32 ∧ ∃ b, encNums ns = some b ∧ be 4 n ++ b = c :=
  guard_some Option.map_eq_some_iff

theorem decNums_iff : ∀ {k : Nat} {bs : List UInt8} {ns : List Nat} {r : List UInt8},
    decNums k bs = some (ns, r) ↔ ns.length = k ∧ ∃ c, encNums ns = some c ∧ bs = c ++ r
  | 0, bs, ns, r => by
    constructor
    · intro h; cases h; exact ⟨rfl, [], rfl, rfl⟩
    · rintro ⟨hl, c, hc, rfl⟩
      cases List.eq_nil_of_length_eq_zero hl
      cases hc; rfl
  | k + 1, bs, ns, r => by
    constructor
    · intro h
      obtain ⟨w, r1, hw, ns', hn, rfl⟩ := decNums_succ.mp h
      obtain ⟨hl, c, hc, rfl⟩ := decNums_iff.mp hn
      have l1 := (takeN_len hw).2
      exact ⟨congrArg (· + 1) hl, be 4 (beNat w) ++ c, encNums_cons.mpr ⟨beNat_lt l1, c, hc, rfl⟩,
        by rw [be_beNat l1, (takeN_some.mp hw).1, List.append_assoc]⟩
    · rintro ⟨hl, c, hc, rfl⟩
      obtain _ | ⟨n, ns'⟩ := ns
      · cases hl
      obtain ⟨hn, b, hb, rfl⟩ := encNums_cons.mp hc
      exact decNums_succ.mpr ⟨be 4 n, b ++ r, takeN_some.mpr ⟨List.append_assoc .., be_length ..⟩, ns',
        decNums_iff.mpr ⟨Nat.succ.inj hl, b, hb, rfl⟩, by rw [beNat_be 4 n hn]⟩

end GoNfsd.Model.Xdr
