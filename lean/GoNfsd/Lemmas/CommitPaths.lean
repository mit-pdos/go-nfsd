import GoNfsd.Gen.Skeleton

/-! The discipline of M14 on the code: how every function of package fstxn reaches the journal's `CommitWait`, and who
    commits without waiting; regenerated on every run.  `Props/C03` reads the tables as "the locks are given back after
    the flush", `Props/C07` as "only a WRITE is acknowledged before it is durable". -/
namespace GoNfsd.Model.Skeleton

theorem commitPaths_checked :
    (∀ f ∈ GoNfsd.Gen.Skeleton.commitPaths, commitPathCheck f = true) ∧
    (∀ c ∈ GoNfsd.Gen.Skeleton.unstableCommitters, c ∈ unstableCommittersAllowed) := by
  decide +kernel

end GoNfsd.Model.Skeleton
