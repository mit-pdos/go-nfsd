/- One step of the reference file system M6 as the inductive `Eff`: the five things a step can do to the state, each with
   the guards that were passed.  Every invariant of `step` is proved by cases on `Eff`, so that the case analysis of `step`
   itself is done once, in `step_eff`. -/
import GoNfsd.Model.Fs

namespace GoNfsd.Model.Fs
open GoNfsd.Gen.Consts

@[simp] theorem get_set_same (s : FS) (i : Nat) (x : Inode) : (s.set i x).get i = x := by
  simp [FS.get, FS.set]

theorem get_set (s : FS) (i j : Nat) (x : Inode) :
    (s.set i x).get j = if j = i then x else s.get j := by
  simp [FS.get, FS.set]

theorem get_set_ne (s : FS) (i j : Nat) (x : Inode) (h : j ≠ i) : (s.set i x).get j = s.get j := by
  rw [get_set, if_neg h]

theorem get_set_congr {α : Type} (f : Inode → α) {s : FS} {i : Nat} {x : Inode} (h : f x = f (s.get i)) (j : Nat) :
    f ((s.set i x).get j) = f (s.get j) := by
  rw [get_set]
  split
  · rename_i e; rw [e, h]
  · rfl

@[simp] theorem set_ninode (s : FS) (i : Nat) (x : Inode) : (s.set i x).ninode = s.ninode := rfl

@[simp] theorem set_unstable (s : FS) (i : Nat) (x : Inode) : (s.set i x).unstable = s.unstable := rfl

@[simp] theorem set_wtmax (s : FS) (i : Nat) (x : Inode) : (s.set i x).wtmax = s.wtmax := rfl

theorem readBytes_write (rest : List Ext) (off : Nat) (d : Array UInt8) :
    readBytes (.write off d :: rest) off d.size = d.toList := by
  apply List.ext_getElem
  · simp [readBytes]
  · intro k h1 h2
    simp [readBytes] at h1 ⊢
    simp [byteAt, h1]

theorem freshInode_gen (kind gen inum parent : Nat) (t : Array UInt8) :
    (freshInode kind gen inum parent t).gen = gen := by
  fun_cases freshInode kind gen inum parent t <;> rfl

theorem freshInode_kind (kind gen inum parent : Nat) (t : Array UInt8) :
    (freshInode kind gen inum parent t).kind = kind := by
  fun_cases freshInode kind gen inum parent t <;> rfl

theorem freshInode_slots (kind gen inum parent : Nat) (t : Array UInt8) :
    (freshInode kind gen inum parent t).slots =
      if kind = NF3DIR then [⟨inum, [46]⟩, ⟨parent, [46, 46]⟩] else [] := by
  fun_cases freshInode kind gen inum parent t
  next h => rw [if_pos h]
  all_goals rw [if_neg ‹_›]

theorem resolve_eq_some {s : FS} {fh : Bytes} {i : Nat} :
    resolve s fh = some i ↔
      i = (parseFh fh).1 ∧ i < s.ninode ∧ (s.get i).kind ≠ 0 ∧ (s.get i).gen = (parseFh fh).2 := by
  fun_cases resolve s fh
  next ino gen hp h => rw [hp]; exact ⟨nofun, by rintro ⟨rfl, hlt, _⟩; exact absurd hlt (Nat.not_lt.mpr h)⟩
  next ino gen hp _ h => rw [hp]; exact ⟨nofun, by rintro ⟨rfl, _, hk, _⟩; exact absurd h hk⟩
  next ino gen hp _ _ h => rw [hp]; exact ⟨nofun, by rintro ⟨rfl, _, _, hg⟩; exact absurd hg h⟩
  next ino gen hp h1 h2 h3 =>
    rw [hp]
    exact ⟨fun h => by cases h; exact ⟨rfl, Nat.lt_of_not_le h1, h2, Classical.not_not.mp h3⟩, fun ⟨e, _⟩ => e ▸ rfl⟩

theorem mkfs_get (u : Bool) (sz j : Nat) :
    (mkfs u sz).get j = if j = ROOTINUM then freshInode NF3DIR 1 ROOTINUM ROOTINUM #[] else {} := by
  simp only [mkfs, FS.get]
  split <;> rfl

theorem addName_some (d d' : Inode) (slot inum : Nat) (name : Bytes) (h : addName d slot inum name = some d') :
    (d.kind = NF3DIR ∧ name.length ≤ MAXNAMELEN ∧ slotOk d.slots slot = true) ∧
    d'.slots = putSlot d.slots slot ⟨inum, name⟩ ∧ d'.size = d'.slots.length * DIRENTSZ ∧
    d'.kind = d.kind ∧ d'.gen = d.gen ∧ d'.content = d.content := by
  revert h
  fun_cases addName d slot inum name <;> intro h <;> cases h
  rename_i h1 h2 _
  exact ⟨⟨Classical.byContradiction fun hk => h1 (.inl hk), Nat.le_of_not_lt fun hl => h1 (.inr hl),
    Classical.byContradiction fun hs => h2 hs⟩, rfl, rfl, rfl, rfl, rfl⟩

/-- what a procedure makes of state `s`: it refuses without effect, or its outcome is as `Q` says -/
def RefusedOr (s : FS) (Q : FS × Reply → Prop) (p : FS × Reply) : Prop := (p.1 = s ∧ p.2.isOk = false) ∨ Q p

theorem RefusedOr.ok {s : FS} {Q : FS × Reply → Prop} {p : FS × Reply} (h : RefusedOr s Q p) (hok : p.2.isOk = true) :
    Q p :=
  h.resolve_left fun hf => nomatch hok.symm.trans hf.2

/-- CREATE / MKDIR / SYMLINK past their guards (`two`: the numbers 0 and 1 are reserved); `dir.AddName` made `d'` of the
    directory `dino` -/
structure CanCreate (s : FS) (c : Choice) (dfh name : Bytes) (dino : Nat) (d' : Inode) : Prop where
  dir : resolve s dfh = some dino
  absent : lookupIn (s.get dino) name = none
  ne : dino ≠ c.inum
  free : (s.get c.inum).kind = 0
  lt : c.inum < s.ninode
  two : 2 ≤ c.inum
  add : addName (s.get dino) c.slot c.inum name = some d'

theorem doCreate_cases (s : FS) (c : Choice) (dfh name : Bytes) (kind : Nat) (t : Array UInt8) :
    RefusedOr s (fun p => ∃ dino d', CanCreate s c dfh name dino d' ∧ p =
        ((s.set c.inum (freshInode kind ((s.get c.inum).gen + 1) c.inum dino t)).set dino d',
          .handle (mkFh c.inum ((s.get c.inum).gen + 1))
            (attrOf c.inum (freshInode kind ((s.get c.inum).gen + 1) c.inum dino t))))
      (doCreate s c dfh name kind t) := by
  fun_cases doCreate s c dfh name kind t
  case case7 dino hres d hl _ _ h3 fresh d' ha s' =>
    have hfree : (s.get c.inum).kind = 0 := Classical.byContradiction fun h => h3 (.inr (.inr h))
    exact .inr ⟨dino, d', ⟨hres, hl, fun he => (resolve_eq_some.mp hres).2.2.1 (he ▸ hfree), hfree,
      Nat.lt_of_not_le fun h => h3 (.inr (.inl h)), Nat.le_of_not_lt fun h => h3 (.inl h), ha⟩,
      congrArg (fun g => (s', Reply.handle (mkFh c.inum g) (attrOf c.inum fresh))) (freshInode_gen ..)⟩
  all_goals exact .inl ⟨rfl, rfl⟩

/-- the state after unlinking the name in slot `idx` of directory `dino` and freeing the object
    `cino` it denoted (REMOVE, RMDIR, and the target of a RENAME) -/
def unlinked (s : FS) (dino idx cino : Nat) : FS :=
  let s1 := s.set dino (remNameAt (s.get dino) idx)
  s1.set cino (freeInode (s1.get cino))

/-- what REMOVE, RMDIR and RENAME check of the object `cino` they free, which `name` denotes in slot `idx` of directory
    `dino` -/
structure CanUnlink (s : FS) (dino : Nat) (name : Bytes) (cino idx : Nat) : Prop where
  look : lookupIn (s.get dino) name = some (cino, idx)
  live : (s.get cino).kind ≠ 0
  empty : (s.get cino).kind = NF3DIR → dirEmpty (s.get cino).slots = true

theorem doRemove_cases (s : FS) (dfh name : Bytes) (isdir : Bool) :
    RefusedOr s (fun p => ∃ dino cino idx, resolve s dfh = some dino ∧ illegalName name = false ∧
      CanUnlink s dino name cino idx ∧ p = (unlinked s dino idx cino, .done)) (doRemove s dfh name isdir) := by
  fun_cases doRemove s dfh name isdir
  case case8 hill dino hd d cino idx hl ch h1 _ h3 h4 s1 s2 =>
    refine .inr ⟨dino, cino, idx, hd, Bool.eq_false_iff.mpr hill, ⟨hl, h1, fun hk => ?_⟩, rfl⟩
    cases isdir
    · exact absurd ⟨Bool.false_ne_true, hk⟩ h4
    · exact Classical.byContradiction fun hne => h3 ⟨rfl, hne⟩
  all_goals exact .inl ⟨rfl, rfl⟩

theorem unlinkTarget_shape (s s1 : FS) (td fino : Nat) (toL : Option (Nat × Nat))
    (h : unlinkTarget s td fino toL = some s1) :
    (toL = none ∧ s1 = s) ∨
    ∃ tino tidx, toL = some (tino, tidx) ∧ s1 = unlinked s td tidx tino ∧ (s.get tino).kind ≠ 0 ∧
      (s.get tino).kind = (s.get fino).kind ∧
      ((s.get tino).kind = NF3DIR → dirEmpty (s.get tino).slots = true) := by
  revert h
  fun_cases unlinkTarget s td fino toL <;> intro h <;> cases h
  · exact .inl ⟨rfl, rfl⟩
  · rename_i tino tidx _ _ h1 h2 _
    exact .inr ⟨tino, tidx, rfl, rfl, fun h0 => h1 (.inl h0), Classical.byContradiction fun hne => h1 (.inr hne),
      fun hk => Classical.byContradiction fun hne => h2 ⟨hk, hne⟩⟩

/-- RENAME past its guards: `s1` is the state once the object of the target name, if there was one, has been unlinked;
    `dir.AddName` made `d'` of the target directory after the source slot was cleared -/
structure CanRename (s : FS) (c : Choice) (ffh fname tfh tname : Bytes) (fd td fino fidx : Nat) (s1 : FS) (d' : Inode) :
    Prop where
  dirs : renameDirs s ffh tfh = some (fd, td)
  look : lookupIn (s.get fd) fname = some (fino, fidx)
  legalF : illegalName fname = false
  legalT : illegalName tname = false
  ne : fino ≠ td
  notSelf : ¬ (fd = td ∧ (lookupIn (s.get td) tname).map (·.1) = some fino)
  tdir : (s.get td).kind = NF3DIR
  target : (lookupIn (s.get td) tname = none ∧ s1 = s) ∨
    ∃ tino tidx, CanUnlink s td tname tino tidx ∧ s1 = unlinked s td tidx tino
  add : addName ((s1.set fd (remNameAt (s1.get fd) fidx)).get td) c.slot fino tname = some d'

theorem doRename_cases (s : FS) (c : Choice) (ffh fname tfh tname : Bytes) :
    RefusedOr s (fun p => ∃ fd td fino fidx, renameDirs s ffh tfh = some (fd, td) ∧
      lookupIn (s.get fd) fname = some (fino, fidx) ∧
      ((fd = td ∧ (lookupIn (s.get td) tname).map (·.1) = some fino ∧ p = (s, .done)) ∨
       ∃ s1 d', CanRename s c ffh fname tfh tname fd td fino fidx s1 d' ∧
          p = ((s1.set fd (remNameAt (s1.get fd) fidx)).set td d', .done))) (doRename s c ffh fname tfh tname) := by
  fun_cases doRename s c ffh fname tfh tname
  case case5 hill fd td hfd fino fidx hlf hftd hself =>
    exact .inr ⟨fd, td, fino, fidx, hfd, hlf, .inl ⟨hself.1, hself.2, rfl⟩⟩
  case case9 hill fd td hfd fino fidx hlf hftd hself s1 hs1 s3 r hr hm =>
    revert hm
    fun_cases moveName s1 c fd fidx td fino tname <;> intro hm <;> cases hm
    · exact absurd rfl (hr _)
    · rename_i s2 dto hg d' ha
      have hdto : (s1.get td).kind = NF3DIR :=
        (get_set_congr (·.kind) (x := remNameAt (s1.get fd) fidx) rfl td).symm.trans
          (Classical.byContradiction fun hk => hg (.inl hk))
      refine .inr ⟨fd, td, fino, fidx, hfd, hlf, .inr ⟨s1, d', ⟨hfd, hlf, Bool.eq_false_iff.mpr fun h => hill (.inl h),
        Bool.eq_false_iff.mpr fun h => hill (.inr h), hftd, hself, ?_, ?_, ha⟩, rfl⟩⟩ <;>
        rcases unlinkTarget_shape _ _ _ _ _ hs1 with ⟨hl, rfl⟩ | ⟨tino, tidx, hl, rfl, hk, _, he⟩
      -- the target directory is one: it held the target name, or `addName` has checked it
      · exact hdto
      · exact Classical.byContradiction fun hk => by rw [lookupIn, if_pos hk] at hl; cases hl
      · exact .inl ⟨hl, rfl⟩
      · exact .inr ⟨tino, tidx, ⟨hl, hk, he⟩, rfl⟩
  all_goals exact .inl ⟨rfl, rfl⟩

/-- `x` differs from `a` at most in size, content and times, as SETATTR and WRITE leave an inode:
    only a regular file changes its size, and not beyond `MaxFileSize` -/
structure AttrUpd (a x : Inode) : Prop where
  kind : x.kind = a.kind
  gen : x.gen = a.gen
  slots : x.slots = a.slots
  reg : a.kind = NF3REG ∨ x.size = a.size
  size : x.size ≤ max a.size MaxFileSize

/-- what an operation may do to the state -/
inductive Does where
  | looks | data | creates | removes | renames

def Op.does : Op → Does
  | .setattr .. | .write .. => .data
  | .create .. | .mkdir .. | .symlink .. => .creates
  | .remove .. | .rmdir .. => .removes
  | .rename .. => .renames
  | _ => .looks

/-- The five outcomes of an operation: the state unchanged, with any reply; new attributes or content for one object
    in use; a new object with its name; a name unlinked and its object freed; a name moved, after the object of the
    target name, if there was one, was unlinked.  Only the first can be a refusal.
    `data`, `created` and `removed` each serve several operations: the premise `op.does = …` says which, and their
    handles and names are not tied to those of `op`, nothing proved by cases on `Eff` needing more.  `renamed` fixes its
    operation instead, because `Eff.wft` (through `NoDirMove`) and `step_entries_stay` speak of the handles and names of
    the RENAME itself, which have to be those of `CanRename`. -/
inductive Eff (s : FS) (c : Choice) : Op → FS × Reply → Prop
  | same (op : Op) (r : Reply) : Eff s c op (s, r)
  | data (op : Op) (i : Nat) (x : Inode) (r : Reply) : r.isOk = true → (s.get i).kind ≠ 0 → AttrUpd (s.get i) x →
      op.does = .data → Eff s c op (s.set i x, r)
  | created (op : Op) (dfh name : Bytes) (kind : Nat) (t : Array UInt8) (dino : Nat) (d' : Inode) :
      kind ≠ 0 → CanCreate s c dfh name dino d' → op.does = .creates →
      Eff s c op ((s.set c.inum (freshInode kind ((s.get c.inum).gen + 1) c.inum dino t)).set dino d',
        .handle (mkFh c.inum ((s.get c.inum).gen + 1))
          (attrOf c.inum (freshInode kind ((s.get c.inum).gen + 1) c.inum dino t)))
  | removed (op : Op) (name : Bytes) (dino cino idx : Nat) :
      illegalName name = false → CanUnlink s dino name cino idx → op.does = .removes →
      Eff s c op (unlinked s dino idx cino, .done)
  | renamed (ffh fname tfh tname : Bytes) (fd td fino fidx : Nat) (s1 : FS) (d' : Inode) :
      CanRename s c ffh fname tfh tname fd td fino fidx s1 d' →
      Eff s c (.rename ffh fname tfh tname) ((s1.set fd (remNameAt (s1.get fd) fidx)).set td d', .done)

theorem resize_attrUpd (a : Inode) (sz : Nat) (hk : a.kind = NF3REG) (hsz : sz ≤ MaxFileSize) :
    AttrUpd a (resize a sz) := by
  unfold resize
  split <;> exact ⟨rfl, rfl, rfl, .inl hk, Nat.le_trans hsz (Nat.le_max_right _ _)⟩

theorem Eff.of_same {s : FS} {c : Choice} {op : Op} {p : FS × Reply} (h : p.1 = s) : Eff s c op p := by
  obtain ⟨s', r⟩ := p
  cases h
  exact .same op r

theorem doCreate_eff (s : FS) (c : Choice) (op : Op) (dfh name : Bytes) (kind : Nat) (t : Array UInt8)
    (hk : kind ≠ 0) (hop : op.does = .creates) : Eff s c op (doCreate s c dfh name kind t) := by
  rcases doCreate_cases s c dfh name kind t with ⟨hs, _⟩ | ⟨dino, d', g, heq⟩
  · exact .of_same hs
  · rw [heq]; exact .created op dfh name kind t dino d' hk g hop

theorem doRemove_eff (s : FS) (c : Choice) (op : Op) (dfh name : Bytes) (isdir : Bool) (hop : op.does = .removes) :
    Eff s c op (doRemove s dfh name isdir) := by
  rcases doRemove_cases s dfh name isdir with ⟨hs, _⟩ | ⟨dino, cino, idx, _, hill, g, heq⟩
  · exact .of_same hs
  · rw [heq]; exact .removed op name dino cino idx hill g hop

theorem doRename_eff (s : FS) (c : Choice) (ffh fname tfh tname : Bytes) :
    Eff s c (.rename ffh fname tfh tname) (doRename s c ffh fname tfh tname) := by
  rcases doRename_cases s c ffh fname tfh tname with ⟨hs, _⟩ |
    ⟨fd, td, fino, fidx, _, _, ⟨_, _, heq⟩ | ⟨s1, d', g, heq⟩⟩
  · exact .of_same hs
  · rw [heq]; exact .same _ _
  · rw [heq]; exact .renamed ffh fname tfh tname fd td fino fidx s1 d' g

/-- whatever the operation and the server's choices, the outcome of a step is one of the five of `Eff` -/
theorem step_eff (s : FS) (op : Op) (c : Choice) : Eff s c op (step s op c) := by
  -- the leaves of `step` in the order of its text: all but SETATTR and WRITE past their guards (6, 25) and the three
  -- procedures that change names return the state they were given
  fun_cases step s op c
  case case6 fh size atime mtime i hr ino h1 h2 ino2 ino1 ino' =>
    have h : AttrUpd (s.get i) ino2 := by
      cases size with
      | none => exact ⟨rfl, rfl, rfl, .inr rfl, Nat.le_max_left _ _⟩
      | some sz => exact resize_attrUpd _ sz (Classical.byContradiction fun hk => h1 ⟨rfl, hk⟩) (by simpa using h2)
    obtain ⟨k, g, sl, r, z⟩ := h
    refine .data _ i _ _ rfl (resolve_eq_some.mp hr).2.2.1 ?_ rfl
    cases atime <;> cases mtime <;> exact ⟨k, g, sl, r, z⟩
  case case25 fh off count stable data i hr ino hk _ _ hb _ _ ino' =>
    have hle : off + count ≤ MaxFileSize := by omega
    exact .data _ i _ _ rfl (resolve_eq_some.mp hr).2.2.1 ⟨rfl, rfl, rfl, .inl (Classical.byContradiction hk),
      Nat.max_le.mpr ⟨Nat.le_max_left _ _, Nat.le_trans hle (Nat.le_max_right _ _)⟩⟩ rfl
  case case27 | case28 | case29 => exact doCreate_eff _ _ _ _ _ _ _ (by decide) rfl
  case case33 | case34 => exact doRemove_eff _ _ _ _ _ _ rfl
  case case35 => exact doRename_eff _ _ _ _ _ _
  all_goals exact .same _ _

theorem Eff.fail {s : FS} {c : Choice} {op : Op} {p : FS × Reply} (e : Eff s c op p) (h : p.2.isOk = false) :
    p.1 = s := by
  cases e with
  | same => rfl
  | data _ _ _ _ hok => exact absurd (hok.symm.trans h) (by decide)
  | _ => exact nomatch h

/-- an operation that only looks leaves the state as it is -/
theorem Eff.looks {s : FS} {c : Choice} {op : Op} {p : FS × Reply} (e : Eff s c op p) (h : op.does = .looks) :
    p.1 = s := by
  cases e with
  | same => rfl
  | renamed => exact nomatch h
  | _ => rename_i hop; exact nomatch h.symm.trans hop

theorem step_fail (s : FS) (op : Op) (c : Choice) : (step s op c).2.isOk = false → (step s op c).1 = s :=
  (step_eff s op c).fail

theorem get_set2 (s : FS) (a b j : Nat) (x y : Inode) :
    ((s.set a x).set b y).get j = if j = b then y else if j = a then x else s.get j := by
  rw [get_set, get_set]

theorem unlinked_get (s : FS) (dino idx cino j : Nat) : (unlinked s dino idx cino).get j =
    if j = cino then freeInode (if cino = dino then remNameAt (s.get dino) idx else s.get cino)
    else if j = dino then remNameAt (s.get dino) idx else s.get j := by
  simp only [unlinked]
  rw [get_set2, get_set]

/-- what one step may do to the kind and the generation of an inode: keep both, allocate it or free it (generation + 1
    either way) -/
def GenStep (a b : Inode) : Prop :=
  (b.kind = a.kind ∧ b.gen = a.gen) ∨
  (a.kind = 0 ∧ b.kind ≠ 0 ∧ b.gen = a.gen + 1) ∨
  (a.kind ≠ 0 ∧ b.kind = 0 ∧ b.gen = a.gen + 1)

theorem unlinked_kind (s : FS) (dino idx cino j : Nat) (hj : j ≠ cino) :
    ((unlinked s dino idx cino).get j).kind = (s.get j).kind := by
  rw [unlinked_get, if_neg hj]
  split
  · rename_i he; rw [he]; rfl
  · rfl

theorem unlinked_gen (s : FS) (dino idx cino j : Nat) (hc : (s.get cino).kind ≠ 0) :
    GenStep (s.get j) ((unlinked s dino idx cino).get j) := by
  unfold GenStep
  rw [unlinked_get]
  -- `j` is the freed object (kind 0, generation + 1), its directory (one slot cleared) or anyone else (untouched)
  grind [remNameAt, freeInode]

theorem moved_kind_gen {s1 : FS} {fd fidx td slot fino : Nat} {tname : Bytes} {d' : Inode}
    (ha : addName ((s1.set fd (remNameAt (s1.get fd) fidx)).get td) slot fino tname = some d') (j : Nat) :
    (((s1.set fd (remNameAt (s1.get fd) fidx)).set td d').get j).kind = (s1.get j).kind ∧
    (((s1.set fd (remNameAt (s1.get fd) fidx)).set td d').get j).gen = (s1.get j).gen := by
  obtain ⟨_, _, _, hk, hg, _⟩ := addName_some _ _ _ _ _ ha
  exact ⟨(get_set_congr (·.kind) hk j).trans (get_set_congr (·.kind) (x := remNameAt (s1.get fd) fidx) rfl j),
    (get_set_congr (·.gen) hg j).trans (get_set_congr (·.gen) (x := remNameAt (s1.get fd) fidx) rfl j)⟩

theorem Eff.gen {s : FS} {c : Choice} {op : Op} {p : FS × Reply} (e : Eff s c op p) (i : Nat) :
    GenStep (s.get i) (p.1.get i) := by
  cases e with
  | same => exact .inl ⟨rfl, rfl⟩
  | data _ j x _ _ _ hx => exact .inl ⟨get_set_congr (·.kind) hx.kind i, get_set_congr (·.gen) hx.gen i⟩
  | created _ _ _ kind t dino _ hkind g =>
    obtain ⟨_, _, _, hk, hg, _⟩ := addName_some _ _ _ _ _ g.add
    rw [get_set2]
    split
    · rename_i e; exact .inl ⟨e ▸ hk, e ▸ hg⟩
    · split
      · rename_i e
        exact .inr (.inl ⟨e ▸ g.free, (freshInode_kind ..).symm ▸ hkind, (freshInode_gen ..).trans (e ▸ rfl)⟩)
      · exact .inl ⟨rfl, rfl⟩
  | removed _ _ _ _ _ _ g => exact unlinked_gen _ _ _ _ _ g.live
  | renamed _ _ _ _ _ td _ _ _ _ g =>
    have h2 := moved_kind_gen g.add i
    rcases g.target with ⟨_, rfl⟩ | ⟨tino, tidx, gt, rfl⟩
    · exact .inl h2
    · unfold GenStep
      dsimp only
      rw [h2.1, h2.2]
      exact unlinked_gen s td tidx tino i gt.live

theorem step_gen (s : FS) (op : Op) (c : Choice) (i : Nat) : GenStep (s.get i) ((step s op c).1.get i) :=
  (step_eff s op c).gen i

theorem step_ninode (s : FS) (op : Op) (c : Choice) : (step s op c).1.ninode = s.ninode := by
  have e := step_eff s op c
  generalize step s op c = p at e
  cases e with
  | renamed _ _ _ _ _ _ _ _ _ _ g => rcases g.target with ⟨_, rfl⟩ | ⟨_, _, _, rfl⟩ <;> rfl
  | _ => rfl

theorem resolve_congr (s s' : FS) (fh : Bytes) (hn : s'.ninode = s.ninode)
    (h : ∀ j, (s'.get j).kind = (s.get j).kind ∧ (s'.get j).gen = (s.get j).gen) :
    resolve s' fh = resolve s fh := by
  unfold resolve
  simp only [hn, (h _).1, (h _).2]

theorem resolve_set (s : FS) (fh : Bytes) (i : Nat) (x : Inode)
    (hk : x.kind = (s.get i).kind) (hg : x.gen = (s.get i).gen) :
    resolve (s.set i x) fh = resolve s fh :=
  resolve_congr _ _ _ rfl fun j => ⟨get_set_congr (·.kind) hk j, get_set_congr (·.gen) hg j⟩

theorem resolve_set_ne (s : FS) (fh : Bytes) (i j : Nat) (x : Inode) (h : resolve s fh = some i) (hj : i ≠ j) :
    resolve (s.set j x) fh = some i := by
  rw [resolve_eq_some] at h ⊢
  rw [get_set_ne _ _ _ _ hj]
  exact h

theorem renameDirs_none {s : FS} {ffh tfh : Bytes} (h : resolve s ffh = none ∨ resolve s tfh = none) :
    renameDirs s ffh tfh = none := by
  unfold renameDirs resolveNum
  -- with one handle `renameDirs` is `resolve`; with two it asks each number to be in range, in use and of its
  -- handle's generation, which is `resolve` of each
  unfold resolve at *
  grind

theorem forall_get_set {Q : Inode → Prop} {s : FS} (h : ∀ i, Q (s.get i)) (j : Nat) {x : Inode} (hx : Q x) :
    ∀ i, Q ((s.set j x).get i) := by
  intro i
  rw [get_set]
  split
  · exact hx
  · exact h i

theorem Eff.pointwise {Q : Inode → Prop} {s : FS} {c : Choice} {op : Op} {p : FS × Reply} (e : Eff s c op p)
    (h : ∀ i, Q (s.get i))
    (data : ∀ a x, Q a → a.kind ≠ 0 → AttrUpd a x → Q x)
    (fresh : ∀ kind gen inum parent t, kind ≠ 0 → Q (freshInode kind gen inum parent t))
    (add : ∀ d d' slot inum name, Q d → addName d slot inum name = some d' → Q d')
    (rem : ∀ d idx, Q d → Q (remNameAt d idx))
    (free : ∀ d, Q (freeInode d)) : ∀ i, Q (p.1.get i) := by
  have unl : ∀ dino idx cino i, Q ((unlinked s dino idx cino).get i) := fun dino idx cino =>
    forall_get_set (forall_get_set h _ (rem _ _ (h _))) _ (free _)
  cases e with
  | same => exact h
  | data _ i x _ _ hl hx => exact forall_get_set h _ (data _ _ (h i) hl hx)
  | created _ _ _ _ _ dino _ hk g => exact forall_get_set (forall_get_set h _ (fresh _ _ _ _ _ hk)) _ (add _ _ _ _ _ (h dino) g.add)
  | removed => exact unl _ _ _
  | renamed _ _ _ _ fd _ _ fidx s1 _ g =>
    have h1 : ∀ i, Q (s1.get i) := by
      rcases g.target with ⟨_, rfl⟩ | ⟨_, _, _, rfl⟩
      · exact h
      · exact unl _ _ _
    have h2 := forall_get_set h1 fd (rem _ fidx (h1 fd))
    exact forall_get_set h2 _ (add _ _ _ _ _ (h2 _) g.add)

theorem run_invariant {I : FS → Prop} (hstep : ∀ s op c, I s → I (step s op c).1) (s : FS) (ops : List (Op × Choice))
    (h : I s) : I (run s ops).1 := by
  induction ops generalizing s with
  | nil => exact h
  | cons x rest ih => exact ih _ (hstep s x.1 x.2 h)

end GoNfsd.Model.Fs
