/- What the functions of the structure checker (Model/Fsck.lean) compute, as statements about lists. -/
import GoNfsd.Model.Fsck
import GoNfsd.Lemmas.Steps

namespace GoNfsd.Model.Fsck
open GoNfsd.Gen.Consts

theorem mem_allOwned (img : Image) (b : Nat) :
    b ∈ allOwned img ↔ ∃ ino ∈ img.inodes, ∃ o ∈ owned img ino, o.blk = b := by
  simp [allOwned, List.mem_flatMap, List.mem_map]

theorem inRuns_iff (rs : List (Nat × Nat)) (b : Nat) :
    inRuns rs b = true ↔ ∃ r ∈ rs, r.1 ≤ b ∧ b < r.2 := by
  simp only [inRuns, List.any_eq_true, Bool.and_eq_true, decide_eq_true_eq]

theorem inRuns_lt {rs : List (Nat × Nat)} {top b : Nat} (h : ∀ r ∈ rs, r.2 ≤ top) (hb : inRuns rs b = true) : b < top :=
  have ⟨r, hr, _, h2⟩ := (inRuns_iff rs b).1 hb
  Nat.lt_of_lt_of_le h2 (h r hr)

theorem mem_clipExpand (rs : List (Nat × Nat)) (lo hi b : Nat) :
    b ∈ clipExpand rs lo hi ↔ inRuns rs b = true ∧ lo ≤ b ∧ b < hi := by
  simp only [clipExpand, List.mem_flatMap, Steps.mem_range'_sub, inRuns_iff]
  simp only [Nat.max_le, Nat.lt_min]
  exact ⟨fun ⟨r, hr, ⟨a, c⟩, b, d⟩ => ⟨⟨r, hr, a, b⟩, c, d⟩, fun ⟨⟨r, hr, a, b⟩, c, d⟩ => ⟨r, hr, ⟨a, c⟩, b, d⟩⟩

theorem covers_spec (rs : List (Nat × Nat)) (lo hi b : Nat) (h : covers rs lo hi = true)
    (h1 : lo ≤ b) (h2 : b < hi) : inRuns rs b = true := by
  simp only [covers, Bool.or_eq_true, decide_eq_true_eq, List.any_eq_true, Bool.and_eq_true] at h
  rcases h with h | ⟨r, hr, h3, h4⟩
  · exact absurd (Nat.lt_of_le_of_lt (Nat.le_trans h h1) h2) (Nat.lt_irrefl _)
  · exact (inRuns_iff rs b).2 ⟨r, hr, Nat.le_trans h3 h1, Nat.lt_of_lt_of_le h2 h4⟩

theorem mem_liveNonRoot (img : Image) (i : Nat) :
    i ∈ liveNonRoot img ↔ ∃ ino ∈ img.inodes, ino.inum = i ∧ ino.kind ≠ 0 ∧ i ≠ ROOTINUM := by
  simp only [liveNonRoot, live, List.mem_map, List.mem_filter, bne_iff_ne, ne_eq]
  constructor
  · rintro ⟨ino, ⟨⟨hm, hk⟩, hr⟩, rfl⟩
    exact ⟨ino, hm, rfl, hk, hr⟩
  · rintro ⟨ino, hm, rfl, hk, hr⟩
    exact ⟨ino, ⟨⟨hm, hk⟩, hr⟩, rfl⟩

theorem isDirInum_iff (img : Image) (i : Nat) :
    isDirInum img i = true ↔ ∃ d ∈ img.inodes, d.inum = i ∧ d.kind = NF3DIR := by
  simp only [isDirInum, dirInodes, List.any_eq_true, List.mem_filter, beq_iff_eq]
  exact ⟨fun ⟨d, ⟨hm, hk⟩, he⟩ => ⟨d, hm, he, hk⟩, fun ⟨d, hm, he, hk⟩ => ⟨d, ⟨hm, hk⟩, he⟩⟩

/-- a test that the entry at a slot passes (`dotsOk`) is passed by an entry of the directory at that slot -/
theorem slotEnt_test {img : Image} {d slot : Nat} {P : Ent → Bool}
    (h : (match slotEnt img d slot with | some e => P e | none => false) = true) :
    ∃ e ∈ entsOf img d, e.slot = slot ∧ P e = true := by
  cases he : slotEnt img d slot with
  | none => rw [he] at h; cases h
  | some e => rw [he] at h; exact ⟨e, List.mem_of_find?_eq_some he, by simpa using List.find?_some he, h⟩

theorem parentOf_some (img : Image) (i p : Nat) : parentOf img i = some p → (p, i) ∈ refs img := by
  fun_cases parentOf img i
  case case1 r hr =>
    rintro ⟨⟩
    have hs : r.2 = i := by simpa using List.find?_some hr
    exact hs ▸ List.mem_of_find?_eq_some hr
  case case2 => nofun

end GoNfsd.Model.Fsck
