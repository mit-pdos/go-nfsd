/-
M7 as a tree: the pointers of a file form an injective map from POSITIONS (direct slot, indirect
root, indirect leaf, double-indirect root / middle / leaf) to disk blocks, `bmap` extends it with
blocks fresh from the allocator, and every other position keeps its pointer (frame).
-/
import GoNfsd.Lemmas.BlockMap

namespace GoNfsd.Model.BlockMap
open GoNfsd.Gen.Consts

inductive Pos where
  | dir (i : Nat) | iroot | ileaf (i : Nat) | droot | dmid (j : Nat) | dleaf (j i : Nat)
  deriving DecidableEq, Repr

def Pos.valid : Pos → Prop
  | .dir i => i < NDIRECT
  | .iroot => True
  | .ileaf i => i < NBLKBLK
  | .droot => True
  | .dmid j => j < NBLKBLK
  | .dleaf j i => j < NBLKBLK ∧ i < NBLKBLK

def Pos.isData : Pos → Prop
  | .dir _ => True
  | .ileaf _ => True
  | .dleaf _ _ => True
  | _ => False

/-- the pointer stored at a position (0: none, also when the index block above is missing), given
    the direct pointers and the two roots -/
def ptrR (st : Store) (dirf : Nat → Nat) (r8 r9 : Nat) : Pos → Nat
  | .dir i => dirf i
  | .iroot => r8
  | .ileaf i => if r8 = 0 then 0 else st r8 i
  | .droot => r9
  | .dmid j => if r9 = 0 then 0 else st r9 j
  | .dleaf j i => if r9 = 0 then 0 else if st r9 j = 0 then 0 else st (st r9 j) i

def ptr (st : Store) (blks : List Nat) : Pos → Nat :=
  ptrR st (fun i => blks.getD i 0) (blks.getD INDIRECT 0) (blks.getD DINDIRECT 0)

/-- the position whose pointer serves file block `bn` -/
def posOf (bn : Nat) : Pos :=
  if bn < NDIRECT then .dir bn
  else if bn - NDIRECT < NBLKBLK then .ileaf (bn - NDIRECT)
  else .dleaf ((bn - NDIRECT - NBLKBLK) / NBLKBLK) ((bn - NDIRECT - NBLKBLK) % NBLKBLK)

/-- the first file block a position's subtree serves -/
def firstBn : Pos → Nat
  | .dir i => i
  | .iroot => NDIRECT
  | .ileaf i => NDIRECT + i
  | .droot => NDIRECT + NBLKBLK
  | .dmid j => NDIRECT + NBLKBLK + NBLKBLK * j
  | .dleaf j i => NDIRECT + NBLKBLK + NBLKBLK * j + i

theorem lookup_eq_ptr (st : Store) (blks : List Nat) (bn : Nat) :
    lookup st blks bn = ptr st blks (posOf bn) := by
  unfold lookup posOf ptr
  by_cases h1 : bn < NDIRECT
  · simp only [h1, if_true, ptrR]
  · by_cases h2 : bn - NDIRECT < NBLKBLK
    · simp only [h1, h2, if_true, if_false, ptrR]
    · simp only [h1, h2, if_false, ptrR]

/-! ### file blocks and their positions

`posOf` and `firstBn` are inverse to each other, between the file blocks the block map can address
and the valid data positions. -/

theorem posOf_ind {i : Nat} (hi : i < NBLKBLK) : posOf (NDIRECT + i) = .ileaf i := by
  rw [posOf, if_neg (Nat.not_lt.2 (Nat.le_add_right _ _)), Nat.add_sub_cancel_left, if_pos hi]

theorem posOf_dind (o : Nat) : posOf (NDIRECT + (NBLKBLK + o)) = .dleaf (o / NBLKBLK) (o % NBLKBLK) := by
  rw [posOf, if_neg (Nat.not_lt.2 (Nat.le_add_right _ _)), Nat.add_sub_cancel_left,
    if_neg (Nat.not_lt.2 (Nat.le_add_right _ _)), Nat.add_sub_cancel_left]

theorem firstBn_dleaf (j i : Nat) : firstBn (.dleaf j i) = NDIRECT + (NBLKBLK + (NBLKBLK * j + i)) := by
  simp only [firstBn, Nat.add_assoc]

theorem posOf_valid (bn : Nat) (hbn : bn < NDIRECT + NBLKBLK + NBLKBLK * NBLKBLK) :
    (posOf bn).valid ∧ (posOf bn).isData := by
  induction bn using range_cases with
  | dir i hi => rw [posOf, if_pos hi]; exact ⟨hi, trivial⟩
  | ind i hi => rw [posOf_ind hi]; exact ⟨hi, trivial⟩
  | dind o =>
    obtain ⟨j, i, hj, hi, rfl⟩ := exists_cell hbn
    rw [posOf_dind, (cell_div_mod hi j).1, (cell_div_mod hi j).2]
    exact ⟨⟨hj, hi⟩, trivial⟩

theorem firstBn_posOf (bn : Nat) : firstBn (posOf bn) = bn := by
  induction bn using range_cases with
  | dir i hi => rw [posOf, if_pos hi]; rfl
  | ind i hi => rw [posOf_ind hi]; rfl
  | dind o => rw [posOf_dind, firstBn_dleaf, Nat.div_add_mod]

theorem posOf_inj (a b : Nat) (h : posOf a = posOf b) : a = b := by
  rw [← firstBn_posOf a, ← firstBn_posOf b, h]

theorem posOf_firstBn {p : Pos} (hp : p.valid) (hd : p.isData) : posOf (firstBn p) = p := by
  cases p with
  | dir i => exact if_pos hp
  | ileaf i => exact posOf_ind hp
  | dleaf j i => rw [firstBn_dleaf, posOf_dind, (cell_div_mod hp.2 j).1, (cell_div_mod hp.2 j).2]
  | _ => exact hd.elim

/-- a slot of the inode, or a cell of the index block at the position one level up -/
inductive Loc where
  | slot (k : Nat)
  | cell (P : Pos) (k : Nat)

/-- where the pointer of a position is kept -/
def Pos.loc : Pos → Loc
  | .dir i => .slot i
  | .iroot => .slot INDIRECT
  | .droot => .slot DINDIRECT
  | .ileaf i => .cell .iroot i
  | .dmid j => .cell .droot j
  | .dleaf j i => .cell (.dmid j) i

/-- cell `k` of index block `r`; no block, no pointer -/
def deref (st : Store) (r k : Nat) : Nat := if r = 0 then 0 else st r k

theorem ptr_slot {st : Store} {blks : List Nat} {q : Pos} {k : Nat} (h : q.loc = .slot k) :
    ptr st blks q = blks.getD k 0 := by
  cases q <;> cases h <;> rfl

theorem ptr_cell {st : Store} {blks : List Nat} {q P : Pos} {k : Nat} (h : q.loc = .cell P k) :
    ptr st blks q = deref st (ptr st blks P) k := by
  cases q <;> cases h
  · rfl
  · rfl
  · show (if _ = 0 then 0 else if _ = 0 then 0 else _) = if (if _ = 0 then 0 else _) = 0 then 0 else st (if _ = 0 then 0 else _) _
    split <;> rfl

/-- induction from the inode's slots down the index blocks -/
theorem Pos.rec_loc {motive : Pos → Prop} (slot : ∀ q k, q.loc = .slot k → motive q)
    (cell : ∀ q P k, q.loc = .cell P k → motive P → motive q) : ∀ q, motive q
  | .dir _ | .iroot | .droot => slot _ _ rfl
  | .ileaf _ | .dmid _ => cell _ _ _ rfl (slot _ _ rfl)
  | .dleaf _ _ => cell _ _ _ rfl (cell _ _ _ rfl (slot _ _ rfl))

theorem loc_inj {p q : Pos} (hp : p.valid) (hq : q.valid) (h : p.loc = q.loc) : p = q := by
  cases p <;> cases q <;> cases h <;>
    first | rfl | exact absurd (show _ < NDIRECT from hp) (by decide) | exact absurd (show _ < NDIRECT from hq) (by decide)

theorem cell_valid {q P : Pos} {k : Nat} (hq : q.valid) (h : q.loc = .cell P k) : P.valid ∧ k < NBLKBLK := by
  cases q <;> cases h
  · exact ⟨trivial, hq⟩
  · exact ⟨trivial, hq⟩
  · exact hq

theorem slot_lt {q : Pos} {k : Nat} (hq : q.valid) (h : q.loc = .slot k) : k < NDIRECT + 2 := by
  cases q <;> cases h
  · exact Nat.lt_add_right 2 hq
  · decide
  · decide

/-- THE POINTER MAP CHANGES AT ONE POSITION `C` ALONE, to `v`, when the inode's slots and the cells
    of the index blocks change there alone, the index block above `C` is there, and nothing hangs
    below `C` before or after. -/
theorem ptr_update {st st' : Store} {blks blks' : List Nat} {C : Pos} {v : Nat}
    (hslot : ∀ q k, q.valid → q.loc = .slot k → blks'.getD k 0 = if q = C then v else blks.getD k 0)
    (hcell : ∀ q P k, q.valid → q.loc = .cell P k → P ≠ C → ptr st blks P ≠ 0 →
      st' (ptr st blks P) k = if q = C then v else st (ptr st blks P) k)
    (hpar : ∀ P k, C.loc = .cell P k → ptr st blks P ≠ 0)
    (hkids : ∀ q k, q.valid → q.loc = .cell C k → ptr st blks q = 0 ∧ deref st' v k = 0) :
    ∀ q, q.valid → ptr st' blks' q = if q = C then v else ptr st blks q := by
  intro q
  induction q using Pos.rec_loc with
  | slot q k h => intro hq; rw [ptr_slot h, ptr_slot h]; exact hslot q k hq h
  | cell q P k h ih =>
    intro hq
    rw [ptr_cell h, ih (cell_valid hq h).1]
    by_cases hP : P = C
    · subst hP
      rw [if_pos rfl, (hkids q k hq h).2, if_neg (by rintro rfl; cases q <;> cases h), (hkids q k hq h).1]
    · rw [if_neg hP, ptr_cell h]
      by_cases hr : ptr st blks P = 0
      · have hqC : q ≠ C := by rintro rfl; exact hpar P k h hr
        rw [hr, if_neg hqC]; rfl
      · unfold deref
        rw [if_neg hr, if_neg hr]
        exact hcell q P k hq h hP hr

theorem ptr_set {st : Store} {blks : List Nat} {C : Pos} {k v : Nat} (hl : blks.length = NDIRECT + 2)
    (hC : C.valid) (hk : C.loc = .slot k)
    (hkids : ∀ q k', q.valid → q.loc = .cell C k' → ptr st blks q = 0 ∧ deref st v k' = 0) :
    ∀ q, q.valid → ptr st (blks.set k v) q = if q = C then v else ptr st blks q := by
  refine ptr_update (fun q k' hq h => ?_) (fun q P k' _ h _ _ => ?_) (fun P k' h => ?_) hkids
  · rw [Steps.getD_set _ _ _ _ _ (hl ▸ slot_lt hC hk)]
    by_cases e : k' = k
    · rw [if_pos e, if_pos (loc_inj hq hC (by rw [h, hk, e]))]
    · rw [if_neg e, if_neg]; rintro rfl; rw [hk] at h; cases h; exact e rfl
  · rw [if_neg]; rintro rfl; rw [hk] at h; cases h
  · rw [hk] at h; cases h

def InjR (st : Store) (dirf : Nat → Nat) (r8 r9 : Nat) : Prop :=
  ∀ p q, p.valid → q.valid → ptrR st dirf r8 r9 p ≠ 0 → ptrR st dirf r8 r9 p = ptrR st dirf r8 r9 q → p = q

def InjB (st : Store) (blks : List Nat) : Prop :=
  InjR st (fun i => blks.getD i 0) (blks.getD INDIRECT 0) (blks.getD DINDIRECT 0)

theorem ptr_put {st : Store} {blks : List Nat} {C P : Pos} {k v : Nat} (hinj : InjB st blks)
    (hC : C.valid) (hk : C.loc = .cell P k) (hr : ptr st blks P ≠ 0)
    (hkids : ∀ q k', q.valid → q.loc = .cell C k' →
      ptr st blks q = 0 ∧ deref (st.put (ptr st blks P) k v) v k' = 0) :
    ∀ q, q.valid → ptr (st.put (ptr st blks P) k v) blks q = if q = C then v else ptr st blks q := by
  refine ptr_update (fun q k' _ h => ?_) (fun q Q k' hq h _ hQ => ?_) (fun Q k' h => ?_) hkids
  · rw [if_neg]; rintro rfl; rw [hk] at h; cases h
  · unfold Store.put
    by_cases e : ptr st blks Q = ptr st blks P ∧ k' = k
    · have := hinj Q P (cell_valid hq h).1 (cell_valid hC hk).1 hQ e.1
      rw [if_pos e, if_pos (loc_inj hq hC (by rw [h, hk, this, e.2]))]
    · rw [if_neg e, if_neg]; rintro rfl; rw [hk] at h; cases h; exact e ⟨rfl, rfl⟩
  · rw [hk] at h; cases h; exact hr

theorem ptr_congr_cells {st st' : Store} {blks : List Nat}
    (h : ∀ P, P.valid → ptr st blks P ≠ 0 → ∀ k, st' (ptr st blks P) k = st (ptr st blks P) k) :
    ∀ q, q.valid → ptr st' blks q = ptr st blks q := by
  intro q
  induction q using Pos.rec_loc with
  | slot q k h => intro _; rw [ptr_slot h, ptr_slot h]
  | cell q P k hk ih =>
    intro hq
    rw [ptr_cell hk, ih (cell_valid hq hk).1, ptr_cell hk]
    unfold deref
    split
    · rfl
    · exact h P (cell_valid hq hk).1 ‹_› k

theorem kids_of_zero {st : Store} {blks : List Nat} {C q : Pos} {k : Nat} (h0 : ptr st blks C = 0)
    (h : q.loc = .cell C k) : ptr st blks q = 0 := by
  rw [ptr_cell h, h0]; rfl

/-- allocator entries are pairwise distinct (0 = "out of space" may repeat) -/
def DistinctNZ (l : List Nat) : Prop := l.Pairwise fun a b => a = 0 ∨ b = 0 ∨ a ≠ b

/-- the pointer tree of one file is well-formed: no block is pointed to from two positions; what the allocator will hand
    out is distinct, pointed to from nowhere and all zeros -/
structure WFB (s : S) (blks : List Nat) : Prop where
  len : blks.length = NDIRECT + 2
  inj : ∀ p q, p.valid → q.valid → ptr s.st blks p ≠ 0 → ptr s.st blks p = ptr s.st blks q → p = q
  fresh : ∀ a ∈ s.allocs, a ≠ 0 → (∀ p, p.valid → ptr s.st blks p ≠ a) ∧ ∀ i, s.st a i = 0
  distinct : DistinctNZ s.allocs

theorem WFB_extend (s s' : S) (blks blks' : List Nat) (p0 : Pos) (a : Nat) (rest : List Nat)
    (h : WFB s blks) (hal : s.allocs = a :: rest) (hal' : s'.allocs = rest) (ha : a ≠ 0)
    (hp0 : p0.valid) (hlen : blks'.length = NDIRECT + 2)
    (hptr : ∀ q, q.valid → ptr s'.st blks' q = if q = p0 then a else ptr s.st blks q)
    (hzero : ∀ b ∈ rest, b ≠ 0 → ∀ i, s'.st b i = 0) :
    WFB s' blks' := by
  have hmem : ∀ b ∈ rest, b ∈ s.allocs := fun b hb => hal ▸ List.mem_cons_of_mem _ hb
  have hafresh := (h.fresh a (hal ▸ List.mem_cons_self) ha).1
  have hdist := List.pairwise_cons.1 (hal ▸ h.distinct : DistinctNZ (a :: rest))
  refine ⟨hlen, fun p q hp hq hne heq => ?_, fun b hb hb0 => ⟨fun p hp => ?_, hzero b (hal' ▸ hb) hb0⟩, hal' ▸ hdist.2⟩
  · rw [hptr p hp] at hne heq
    rw [hptr q hq] at heq
    by_cases h1 : p = p0 <;> by_cases h2 : q = p0
    · rw [h1, h2]
    · rw [if_pos h1, if_neg h2] at heq; exact absurd heq.symm (hafresh q hq)
    · rw [if_neg h1, if_pos h2] at heq; exact absurd heq (hafresh p hp)
    · rw [if_neg h1] at hne heq; rw [if_neg h2] at heq; exact h.inj p q hp hq hne heq
  · rw [hptr p hp]
    by_cases h1 : p = p0
    · rw [if_pos h1]
      exact (hdist.1 b (hal' ▸ hb)).resolve_left ha |>.resolve_left hb0
    · rw [if_neg h1]; exact (h.fresh b (hmem b (hal' ▸ hb)) hb0).1 p hp

/-- taking an entry from the allocator without using it (0, or a failure further down) -/
theorem WFB.alloc {s : S} {blks : List Nat} (h : WFB s blks) : WFB s.alloc.2 blks := by
  refine ⟨h.len, ?_, fun b hb hb0 => ?_, ?_⟩
  · rw [alloc_st]; exact h.inj
  · rw [alloc_st]; exact h.fresh b (alloc_sub s b hb) hb0
  · rw [alloc_allocs]; exact List.Pairwise.sublist (List.tail_sublist _) h.distinct

theorem Pos.isData.kids {C q : Pos} {k : Nat} (hC : C.isData) (h : q.loc = .cell C k) : False := by
  cases q <;> cases h <;> exact hC

/-- what a step leaves behind: a well-formed tree in which no data position but `target` (none at all if the step
    failed) has another pointer than before, no pointer that was set has changed, and what is new comes from the allocator -/
structure StepOK (s s' : S) (blks blks' : List Nat) (target : Pos) (blk : Nat) : Prop where
  wf : WFB s' blks'
  hit : blk ≠ 0 → ptr s'.st blks' target = blk
  frame : ∀ q, q.valid → q.isData → q ≠ target → ptr s'.st blks' q = ptr s.st blks q
  miss : blk = 0 → ∀ q, q.valid → q.isData → ptr s'.st blks' q = ptr s.st blks q
  above : ∀ q, q.valid → firstBn target < firstBn q → ptr s'.st blks' q = ptr s.st blks q
  keep : ∀ q, q.valid → ptr s.st blks q ≠ 0 → ptr s'.st blks' q = ptr s.st blks q
  fromAllocs : ∀ q, q.valid → ptr s'.st blks' q = ptr s.st blks q ∨ ptr s'.st blks' q ∈ s.allocs

/-- a step, and where it wrote: every block whose cells changed is, afterwards, the index block
    at one of the positions `L`; the allocator's stream only gets shorter -/
structure MapStep (s s' : S) (blks blks' : List Nat) (target : Pos) (blk : Nat) (L : List Pos) : Prop
    extends StepOK s s' blks blks' target blk where
  touch : ∀ y x, s'.st y x ≠ s.st y x → y ≠ 0 ∧ ∃ P ∈ L, P.valid ∧ ptr s'.st blks' P = y
  sub : ∀ x ∈ s'.allocs, x ∈ s.allocs

theorem MapStep.same {s s' : S} {blks : List Nat} (t : Pos) (blk : Nat) (L : List Pos) (h : WFB s' blks)
    (hst : s'.st = s.st) (hal : ∀ x ∈ s'.allocs, x ∈ s.allocs) (hit : blk ≠ 0 → ptr s.st blks t = blk) :
    MapStep s s' blks blks t blk L :=
  ⟨⟨h, by rw [hst]; exact hit, fun _ _ _ _ => by rw [hst], fun _ _ _ _ => by rw [hst], fun _ _ _ => by rw [hst],
    fun _ _ _ => by rw [hst], fun _ _ => Or.inl (by rw [hst])⟩, fun _ _ hne => absurd (by rw [hst]) hne, hal⟩

theorem MapStep.fail {s : S} {blks : List Nat} (t : Pos) (L : List Pos) (h : WFB s blks) :
    MapStep s s.alloc.2 blks blks t 0 L :=
  .same t 0 L h.alloc (alloc_st s) (alloc_sub s) (fun h => absurd rfl h)

theorem MapStep.link {s s' : S} {blks blks' : List Nat} {C : Pos} (L : List Pos) (h : WFB s blks)
    (ha : s.alloc.1 ≠ 0) (hal : s'.allocs = s.alloc.2.allocs) (hC : C.valid) (h0 : ptr s.st blks C = 0)
    (hlen : blks'.length = NDIRECT + 2)
    (hptr : ∀ q, q.valid → ptr s'.st blks' q = if q = C then s.alloc.1 else ptr s.st blks q)
    (hch : ∀ y x, s'.st y x ≠ s.st y x → y ≠ 0 ∧ ∃ P ∈ L, P.valid ∧ ptr s.st blks P = y) :
    MapStep s s' blks blks' C s.alloc.1 L := by
  have hne : ∀ q, q.valid → ptr s.st blks q ≠ 0 → ptr s'.st blks' q = ptr s.st blks q :=
    fun q hq hq0 => by rw [hptr q hq, if_neg]; rintro rfl; exact hq0 h0
  refine ⟨⟨WFB_extend s s' blks blks' C _ _ h (alloc_cons s ha) hal ha hC hlen hptr fun b hb hb0 i => ?_,
    fun _ => by rw [hptr C hC, if_pos rfl], fun q hq _ hne => by rw [hptr q hq, if_neg hne], fun e => absurd e ha,
    fun q hq hlt => by rw [hptr q hq, if_neg]; rintro rfl; exact Nat.lt_irrefl _ hlt, hne, fun q hq => ?_⟩,
    fun y x hyx => ?_, fun x hx => alloc_sub s x (hal ▸ hx)⟩
  · have hbf := h.fresh b (alloc_sub s b hb) hb0
    apply Classical.byContradiction
    intro hi
    obtain ⟨_, P, _, hP, hPb⟩ := hch b i (by rw [hbf.2 i]; exact hi)
    exact hbf.1 P hP hPb
  · rw [hptr q hq]
    by_cases e : q = C
    · rw [if_pos e]; exact Or.inr (alloc_mem s ha)
    · rw [if_neg e]; exact Or.inl rfl
  · obtain ⟨hy, P, hPL, hP, hPy⟩ := hch y x hyx
    exact ⟨hy, P, hPL, hP, (hne P hP (by rw [hPy]; exact hy)).trans hPy⟩

/-- an index block is linked at `P`, then the step goes on below it -/
theorem MapStep.trans {s s₁ s' : S} {blks blks₁ blks' : List Nat} {P t : Pos} {a blk : Nat} {L : List Pos}
    (h₁ : MapStep s s₁ blks blks₁ P a L) (h₂ : MapStep s₁ s' blks₁ blks' t blk L) (hP : ¬ P.isData)
    (hle : firstBn P ≤ firstBn t) :
    MapStep s s' blks blks' t blk L := by
  have hd : ∀ q, q.isData → q ≠ P := fun q hq e => hP (e ▸ hq)
  refine ⟨⟨h₂.wf, h₂.hit, fun q hq hqd hne => (h₂.frame q hq hqd hne).trans (h₁.frame q hq hqd (hd q hqd)),
    fun e q hq hqd => (h₂.miss e q hq hqd).trans (h₁.frame q hq hqd (hd q hqd)),
    fun q hq hlt => (h₂.above q hq hlt).trans (h₁.above q hq (Nat.lt_of_le_of_lt hle hlt)),
    fun q hq hne => (h₂.keep q hq (by rw [h₁.keep q hq hne]; exact hne)).trans (h₁.keep q hq hne), fun q hq => ?_⟩,
    fun y x hyx => ?_, fun x hx => h₁.sub x (h₂.sub x hx)⟩
  · rcases h₂.fromAllocs q hq with e | e
    · rw [e]; exact h₁.fromAllocs q hq
    · exact Or.inr (h₁.sub _ e)
  · by_cases e : s'.st y x = s₁.st y x
    · obtain ⟨hy, Q, hQL, hQ, hQy⟩ := h₁.touch y x (by rw [← e]; exact hyx)
      exact ⟨hy, Q, hQL, hQ, (h₂.keep Q hQ (by rw [hQy]; exact hy)).trans hQy⟩
    · exact h₂.touch y x e

/-- a step for an index position on the way to `t` is a step for `t` that returns nothing -/
theorem MapStep.stop {s s' : S} {blks blks' : List Nat} {P t : Pos} {a : Nat} {L : List Pos}
    (h : MapStep s s' blks blks' P a L) (hP : ¬ P.isData) (hle : firstBn P ≤ firstBn t) :
    MapStep s s' blks blks' t 0 L :=
  ⟨⟨h.wf, fun e => absurd rfl e, fun q hq hqd _ => h.frame q hq hqd fun e => hP (e ▸ hqd),
    fun _ q hq hqd => h.frame q hq hqd fun e => hP (e ▸ hqd),
    fun q hq hlt => h.above q hq (Nat.lt_of_le_of_lt hle hlt), h.keep, h.fromAllocs⟩, h.touch, h.sub⟩

theorem MapStep.link_slot {s : S} {blks : List Nat} {C : Pos} {k : Nat} (L : List Pos) (h : WFB s blks)
    (ha : s.alloc.1 ≠ 0) (hC : C.valid) (hk : C.loc = .slot k) (h0 : blks.getD k 0 = 0) :
    MapStep s s.alloc.2 blks (blks.set k s.alloc.1) C s.alloc.1 L := by
  have h0' : ptr s.st blks C = 0 := (ptr_slot hk).trans h0
  refine .link L h ha rfl hC h0' (by rw [List.length_set]; exact h.len) ?_ (fun y x hne => absurd (by rw [alloc_st]) hne)
  rw [alloc_st]
  refine ptr_set h.len hC hk fun q k' _ hq => ⟨kids_of_zero h0' hq, ?_⟩
  unfold deref
  rw [if_neg ha]
  exact (h.fresh _ (alloc_mem s ha) ha).2 k'

theorem leafStep_step (s : S) (blks : List Nat) (h : WFB s blks) (r i : Nat) (P C : Pos) (L : List Pos)
    (hP : P.valid) (hPr : ptr s.st blks P = r) (hr : r ≠ 0) (hPL : P ∈ L) (hC : C.valid)
    (hCv : ptr s.st blks C = s.st r i)
    (hput : s.st r i = 0 → s.alloc.1 ≠ 0 → ∀ q, q.valid →
      ptr (s.st.put r i s.alloc.1) blks q = if q = C then s.alloc.1 else ptr s.st blks q) :
    MapStep s (leafStep s r i).1 blks blks C (leafStep s r i).2 L := by
  fun_cases leafStep s r i
  case case1 => exact .same C _ L h rfl (fun _ => id) (fun _ => hCv)
  case case2 => exact .fail C L h
  case case3 hn ha =>
    have hn := Classical.not_not.1 hn
    refine .link L h ha rfl hC (hCv.trans hn) h.len (by rw [alloc_st]; exact hput hn ha) fun y x hyx => ?_
    rw [alloc_st] at hyx
    have : y = r := put_touch hyx
    exact ⟨this ▸ hr, P, hPL, hP, this ▸ hPr⟩

theorem leafStep_ok (s : S) (blks : List Nat) (h : WFB s blks) (r i : Nat) (P C : Pos)
    (hP : P.valid) (hPr : ptr s.st blks P = r) (hr : r ≠ 0) (hC : C.valid)
    (hCv : ptr s.st blks C = s.st r i)
    (hput : ∀ b, ∀ q, q.valid → ptr (s.st.put r i b) blks q = if q = C then b else ptr s.st blks q) :
    StepOK s (leafStep s r i).1 blks blks C (leafStep s r i).2 :=
  (leafStep_step s blks h r i P C [P] hP hPr hr List.mem_cons_self hC hCv fun _ _ => hput _).toStepOK

/-- `C` is the position kept in cell `k` of the index block at `P`: below an empty `C` nothing hangs, and a block
    fresh from the allocator is empty -/
theorem leafStep_at {s : S} {blks : List Nat} {P C : Pos} {k : Nat} (L : List Pos) (h : WFB s blks) (hC : C.valid)
    (hk : C.loc = .cell P k) (hr : ptr s.st blks P ≠ 0) (hPL : P ∈ L) :
    MapStep s (leafStep s (ptr s.st blks P) k).1 blks blks C (leafStep s (ptr s.st blks P) k).2 L := by
  have hCv := (ptr_cell hk).trans (if_neg hr)
  refine leafStep_step s blks h _ k P C L (cell_valid hC hk).1 rfl hr hPL hC hCv fun hn ha =>
    ptr_put h.inj hC hk hr fun q k' _ hq => ⟨kids_of_zero (hCv.trans hn) hq, ?_⟩
  have haf := h.fresh _ (alloc_mem s ha) ha
  unfold deref Store.put
  rw [if_neg ha, if_neg (fun e => haf.1 P (cell_valid hC hk).1 e.1.symm), haf.2]

/-- the index positions on the way to a data position -/
def anc : Pos → List Pos
  | .ileaf _ => [.iroot]
  | .dleaf j _ => [.droot, .dmid j]
  | _ => []

theorem dstep_step (s : S) (blks : List Nat) (h : WFB s blks) {j i : Nat} (hj : j < NBLKBLK) (hi : i < NBLKBLK)
    (hd : blks.getD DINDIRECT 0 ≠ 0) :
    let r := indbmap s (blks.getD DINDIRECT 0) 2 (NBLKBLK * j + i)
    MapStep s r.1 blks blks (.dleaf j i) r.2.1 [.droot, .dmid j] ∧ r.2.2 = blks.getD DINDIRECT 0 := by
  have had : s.alloc.1 ≠ blks.getD DINDIRECT 0 := fun e =>
    (h.fresh _ (alloc_mem s (e ▸ hd)) (e ▸ hd)).1 .droot trivial e.symm
  rw [indbmap_two _ _ _ hd had, (cell_div_mod hi j).1, (cell_div_mod hi j).2]
  dsimp only
  have h1 := leafStep_at (C := .dmid j) (P := .droot) [.droot, .dmid j] h hj rfl hd (by simp)
  by_cases hm : (leafStep s (blks.getD DINDIRECT 0) j).2 = 0
  · rw [if_pos hm]
    exact ⟨h1.stop id (Nat.le_add_right _ _), rfl⟩
  · rw [if_neg hm]
    have h2 := leafStep_at (C := .dleaf j i) (P := .dmid j) [.droot, .dmid j] h1.wf ⟨hj, hi⟩ rfl
      (by rw [h1.hit hm]; exact hm) (by simp)
    rw [h1.hit hm] at h2
    exact ⟨h1.trans h2 id (Nat.le_add_right _ _), rfl⟩

theorem dstep_ok (s : S) (blks : List Nat) (h : WFB s blks) (off : Nat)
    (hd : blks.getD DINDIRECT 0 ≠ 0) (hoff : off < NBLKBLK * NBLKBLK) :
    StepOK s (indbmap s (blks.getD DINDIRECT 0) 2 off).1 blks blks
      (.dleaf (off / NBLKBLK) (off % NBLKBLK)) (indbmap s (blks.getD DINDIRECT 0) 2 off).2.1 ∧
    (indbmap s (blks.getD DINDIRECT 0) 2 off).2.2 = blks.getD DINDIRECT 0 := by
  have hs := dstep_step s blks h (Nat.div_lt_of_lt_mul hoff) (Nat.mod_lt off (by decide)) hd
  rw [Nat.div_add_mod] at hs
  exact ⟨hs.1.toStepOK, hs.2⟩

/-- The root `R` of an indirect range, kept in slot `k` of the inode: a missing one is linked first, then the step
    goes on below it (`below`).  (`bmap` stores the root if it differs from the pointer in slot `f` — in both ranges
    that of the indirect root, as in the code; a root fresh from the allocator differs from every pointer of the file.) -/
theorem root_step {s : S} {blks : List Nat} {R F t : Pos} {k f l off : Nat} {L : List Pos} (h : WFB s blks)
    (hR : R.valid) (hk : R.loc = .slot k) (hd : ¬ R.isData) (hF : F.valid) (hf : F.loc = .slot f)
    (hle : firstBn R ≤ firstBn t)
    (below : ∀ (s₁ : S) (blks₁ : List Nat), WFB s₁ blks₁ → blks₁.getD k 0 ≠ 0 →
      let r := indbmap s₁ (blks₁.getD k 0) (l + 1) off
      MapStep s₁ r.1 blks₁ blks₁ t r.2.1 L ∧ r.2.2 = blks₁.getD k 0) :
    let r := indbmap s (blks.getD k 0) (l + 1) off
    MapStep s r.1 blks (if r.2.2 ≠ blks.getD f 0 then blks.set k r.2.2 else blks) t r.2.1 L := by
  dsimp only
  by_cases hr : blks.getD k 0 = 0
  · rw [hr, indbmap_zero_root]
    by_cases ha : s.alloc.1 = 0
    · rw [if_pos ha, (congrArg (blks.set k) hr.symm).trans (set_same blks k), ite_self]
      exact .fail _ _ h
    · rw [if_neg ha]
      have hl := MapStep.link_slot L h ha hR hk hr
      have hka : (blks.set k s.alloc.1).getD k 0 = s.alloc.1 :=
        (Steps.getD_set _ _ _ _ _ (h.len ▸ slot_lt hR hk)).trans (if_pos rfl)
      obtain ⟨hs, hroot⟩ := below s.alloc.2 _ hl.wf (by rw [hka]; exact ha)
      rw [hka] at hs hroot
      rw [hroot, if_pos fun e => (h.fresh _ (alloc_mem s ha) ha).1 F hF ((ptr_slot hf).trans e.symm)]
      exact hl.trans hs hd hle
  · obtain ⟨hs, hroot⟩ := below s blks h hr
    rw [hroot, set_same blks k, ite_self]
    exact hs

theorem bmap_step (s : S) (blks : List Nat) (bn : Nat) (h : WFB s blks)
    (hbn : bn < NDIRECT + NBLKBLK + NBLKBLK * NBLKBLK) :
    MapStep s (bmap s blks bn).1 blks (bmap s blks bn).2.1 (posOf bn) (bmap s blks bn).2.2.1 (anc (posOf bn)) := by
  induction bn using range_cases with
  | dir i hi =>
    rw [bmap_eq_dir s blks hi, posOf, if_pos hi]
    by_cases h0 : blks.getD i 0 = 0
    · rw [if_pos h0]
      by_cases ha : s.alloc.1 = 0
      · rw [(congrArg (blks.set i) (ha.trans h0.symm)).trans (set_same blks i)]
        rw [ha]; exact .fail _ _ h
      · exact .link_slot _ h ha hi rfl h0
    · rw [if_neg h0]; exact .same _ _ _ h rfl (fun _ => id) (fun _ => rfl)
  | ind i hi =>
    rw [bmap_eq_ind s blks hi, posOf_ind hi]
    dsimp only
    exact root_step (R := .iroot) (F := .iroot) h trivial rfl id trivial rfl (Nat.le_add_right _ _)
      fun s₁ blks₁ h₁ hr => by
        rw [indbmap_one _ _ _ hr]
        exact ⟨leafStep_at (C := .ileaf i) (P := .iroot) [.iroot] h₁ hi rfl hr (by simp), rfl⟩
  | dind o =>
    obtain ⟨j, i, hj, hi, rfl⟩ := exists_cell hbn
    rw [bmap_eq_dind s blks, posOf_dind, (cell_div_mod hi j).1, (cell_div_mod hi j).2]
    dsimp only
    exact root_step (R := .droot) (F := .iroot) h trivial rfl id trivial rfl
      (Nat.le_trans (Nat.le_add_right _ _) (Nat.le_add_right _ _))
      fun s₁ blks₁ h₁ hr => dstep_step s₁ blks₁ h₁ hj hi hr

theorem bmap_ok (s : S) (blks : List Nat) (bn : Nat) (h : WFB s blks)
    (hbn : bn < NDIRECT + NBLKBLK + NBLKBLK * NBLKBLK) :
    StepOK s (bmap s blks bn).1 blks (bmap s blks bn).2.1 (posOf bn) (bmap s blks bn).2.2.1 :=
  (bmap_step s blks bn h hbn).toStepOK

theorem bmap_touch (s : S) (blks : List Nat) (bn : Nat) (h : WFB s blks)
    (hbn : bn < NDIRECT + NBLKBLK + NBLKBLK * NBLKBLK) (y x : Nat)
    (hc : (bmap s blks bn).1.st y x ≠ s.st y x) :
    y ≠ 0 ∧ ∃ P ∈ anc (posOf bn), ptr (bmap s blks bn).1.st (bmap s blks bn).2.1 P = y :=
  have ⟨hy, P, hP, _, e⟩ := (bmap_step s blks bn h hbn).touch y x hc
  ⟨hy, P, hP, e⟩

def emptyStore : Store := fun _ _ => 0

theorem ptr_empty (q : Pos) : ptr emptyStore (List.replicate (NDIRECT + 2) 0) q = 0 := by
  induction q using Pos.rec_loc with
  | slot q k h => rw [ptr_slot h, List.getD_eq_getElem?_getD, List.getElem?_replicate]; split <;> rfl
  | cell q P k h ih => rw [ptr_cell h, ih]; rfl

theorem WFB_empty (allocs : List Nat) (hd : DistinctNZ allocs) :
    WFB { st := emptyStore, allocs := allocs } (List.replicate (NDIRECT + 2) 0) :=
  ⟨List.length_replicate, fun p _ _ _ hne => absurd (ptr_empty p) hne,
   fun _ _ ha0 => ⟨fun p _ => by rw [ptr_empty p]; exact Ne.symm ha0, fun _ => rfl⟩, hd⟩

def bmapAll (s : S) (blks : List Nat) : List Nat → S × List Nat
  | [] => (s, blks)
  | bn :: rest => bmapAll (bmap s blks bn).1 (bmap s blks bn).2.1 rest

theorem bmapAll_wf (s : S) (blks : List Nat) (bns : List Nat) (h : WFB s blks)
    (hb : ∀ bn ∈ bns, bn < NDIRECT + NBLKBLK + NBLKBLK * NBLKBLK) :
    WFB (bmapAll s blks bns).1 (bmapAll s blks bns).2 := by
  induction bns generalizing s blks with
  | nil => exact h
  | cons bn rest ih =>
    simp only [bmapAll]
    exact ih _ _ (bmap_ok s blks bn h (hb bn (by simp))).wf (fun b hm => hb b (List.mem_cons_of_mem _ hm))

theorem bmapAll_freed (s : S) (blks : List Nat) (bns : List Nat) : (bmapAll s blks bns).1.freed = s.freed := by
  induction bns generalizing s blks with
  | nil => rfl
  | cons bn rest ih => exact (ih _ _).trans (bmap_frame s blks bn).1

end GoNfsd.Model.BlockMap
