/- The name space of the reference file system M6 (C04's namespace clauses without ".."): `Ref s d idx ino` — directory `d`
   has a name for `ino` — and the invariant `WFN`.  How `Ref` changes is one iff per single edit of an inode, and each
   single edit keeps `WFN`.  Seen from a state with `WFN` every outcome of a step changes the names of at most ONE object
   (`Renames`); the invariants built on `WFN` (`WFO`, `WFT`) read their clauses off that. -/
import GoNfsd.Lemmas.Names
open GoNfsd.Model.Fs GoNfsd.Gen.Consts

namespace GoNfsd.Model.Fs

/-- directory `d` has, in slot `idx ≥ 2`, a name for inode `ino` -/
def Ref (s : FS) (d idx ino : Nat) : Prop :=
  ∃ sl, (s.get d).slots[idx]? = some sl ∧ sl.inum = ino ∧ ino ≠ 0 ∧ 2 ≤ idx

/-- the first two slots of a directory are its live "." and ".." -/
def HasDots (i : Inode) : Prop :=
  ∃ a b, i.slots[0]? = some ⟨a, [46]⟩ ∧ a ≠ 0 ∧ i.slots[1]? = some ⟨b, [46, 46]⟩ ∧ b ≠ 0

/-- well-formedness of the name space (everything of C04's namespace clause except "..": a
    directory moved by RENAME keeps its old ".." — the known finding) -/
structure WFN (s : FS) : Prop where
  nu : NU s
  dots : ∀ d, (s.get d).kind = NF3DIR → HasDots (s.get d)
  noslots : ∀ d, (s.get d).kind ≠ NF3DIR → (s.get d).slots = []
  nd : ∀ d idx ino, Ref s d idx ino → (s.get ino).kind ≠ 0
  ur : ∀ d1 i1 d2 i2 ino, Ref s d1 i1 ino → Ref s d2 i2 ino → d1 = d2 ∧ i1 = i2
  zero_free : (s.get 0).kind = 0

theorem HasDots.low {d : Inode} (hd : HasDots d) {k : Nat} {sl : Slot} (hk : k < 2) (hg : d.slots[k]? = some sl) :
    sl.inum ≠ 0 ∧ illegalName sl.name = true := by
  obtain ⟨a, b, h0, ha, h1, hb⟩ := hd
  match k, hk, hg with
  | 0, _, hg => cases h0.symm.trans hg; exact ⟨ha, rfl⟩
  | 1, _, hg => cases h1.symm.trans hg; exact ⟨hb, rfl⟩

theorem slotOk_ge_two (i : Inode) (slot : Nat) (hd : HasDots i) (hok : slotOk i.slots slot = true) : 2 ≤ slot := by
  refine Nat.le_of_not_lt fun hlt => ?_
  rcases (slotOk_iff _ _).mp hok with he | ⟨f, hf, hf0⟩
  · obtain ⟨_, _, _, _, h1, _⟩ := hd
    exact Nat.lt_irrefl _ (Nat.lt_of_lt_of_le (he ▸ (List.getElem?_eq_some_iff.mp h1).1) (Nat.le_of_lt_succ hlt))
  · exact (hd.low hlt hf).1 hf0

theorem idx_ge_two {d : Inode} {name : Bytes} {ino idx : Nat} (hd : HasDots d)
    (hg : d.slots[idx]? = some ⟨ino, name⟩) (hill : illegalName name = false) : 2 ≤ idx :=
  Nat.le_of_not_lt fun hlt => Bool.false_ne_true (hill.symm.trans (hd.low hlt hg).2)

theorem HasDots.congr {d d' : Inode} (hd : HasDots d) (h : ∀ k, k < 2 → d'.slots[k]? = d.slots[k]?) : HasDots d' := by
  obtain ⟨a, b, h0, ha, h1, hb⟩ := hd
  exact ⟨a, b, (h 0 (by decide)).trans h0, ha, (h 1 (by decide)).trans h1, hb⟩

theorem remNameAt_low (d : Inode) {idx k : Nat} (h2 : 2 ≤ idx) (hk : k < 2) :
    (remNameAt d idx).slots[k]? = d.slots[k]? :=
  List.getElem?_set_ne (Nat.ne_of_gt (Nat.lt_of_lt_of_le hk h2))

theorem addName_low {d d' : Inode} {slot inum k : Nat} {name : Bytes} (hd : HasDots d)
    (ha : addName d slot inum name = some d') (hk : k < 2) : d'.slots[k]? = d.slots[k]? := by
  obtain ⟨⟨_, _, hok⟩, hsl, _⟩ := addName_some _ _ _ _ _ ha
  rw [hsl, putSlot_get _ _ _ _ hok, if_neg (Nat.ne_of_lt (Nat.lt_of_lt_of_le hk (slotOk_ge_two d slot hd hok)))]

theorem lookupIn_ref {s : FS} {d ino idx : Nat} {name : Bytes} (h : WFN s)
    (hl : lookupIn (s.get d) name = some (ino, idx)) (hill : illegalName name = false) : Ref s d idx ino := by
  obtain ⟨hk, hg, h0⟩ := lookupIn_some_spec _ _ _ _ hl
  exact ⟨_, hg, rfl, h0, idx_ge_two (h.dots d hk) hg hill⟩

/-- no directory entry of object `i` is a name (it is not a directory, or an empty one) -/
def NoRefsFrom (s : FS) (i : Nat) : Prop := ∀ j ino, ¬ Ref s i j ino

theorem noRefs_of_not_dir (s : FS) (i : Nat) (h : WFN s) (hk : (s.get i).kind ≠ NF3DIR) : NoRefsFrom s i := by
  intro j ino ⟨sl, hg, _, _, _⟩
  rw [h.noslots i hk] at hg
  cases hg

theorem ref_dir {s : FS} {d j i : Nat} (h : WFN s) (hr : Ref s d j i) : (s.get d).kind = NF3DIR :=
  Classical.byContradiction fun hk => noRefs_of_not_dir s d h hk j i hr

theorem noRefs_of_empty (s : FS) (i : Nat) (he : dirEmpty (s.get i).slots = true) : NoRefsFrom s i := by
  intro j ino ⟨sl, hg, hi, hn0, hj⟩
  have hm : sl ∈ (s.get i).slots.drop 2 :=
    List.mem_iff_getElem?.mpr ⟨j - 2, by rw [List.getElem?_drop, Nat.add_sub_cancel' hj]; exact hg⟩
  exact hn0 (hi ▸ of_decide_eq_true (List.all_eq_true.mp he sl hm))

theorem noRefs_of_guard (s : FS) (i : Nat) (h : WFN s)
    (he : (s.get i).kind = NF3DIR → dirEmpty (s.get i).slots = true) : NoRefsFrom s i := by
  by_cases hd : (s.get i).kind = NF3DIR
  · exact noRefs_of_empty s i (he hd)
  · exact noRefs_of_not_dir s i h hd

theorem Ref.idx_ge {s : FS} {d j i : Nat} (h : Ref s d j i) : 2 ≤ j := h.choose_spec.2.2.2

theorem Ref.ne_zero {s : FS} {d j i : Nat} (h : Ref s d j i) : i ≠ 0 := h.choose_spec.2.2.1

theorem ref_inj {s : FS} {d j a b : Nat} (ha : Ref s d j a) (hb : Ref s d j b) : a = b := by
  obtain ⟨sl, hg, hi, _⟩ := ha
  obtain ⟨sl', hg', hi', _⟩ := hb
  cases hg.symm.trans hg'
  exact hi.symm.trans hi'

/-! The four edits of an inode that touch names: new attributes (`ref_data`), a slot cleared (`ref_rem`), a slot filled
(`ref_add`), an inode without names — fresh or freed — put in place (`ref_nonames`). -/

theorem ref_data (s : FS) (i : Nat) (x : Inode) (hx : x.slots = (s.get i).slots) (d j ino : Nat) :
    Ref (s.set i x) d j ino ↔ Ref s d j ino := by
  unfold Ref
  rw [get_set]
  split
  · rename_i he; rw [hx, he]
  · rfl

theorem ref_rem (s : FS) (i idx d j ino : Nat) :
    Ref (s.set i (remNameAt (s.get i) idx)) d j ino ↔ Ref s d j ino ∧ ¬ (d = i ∧ j = idx) := by
  unfold Ref
  rw [get_set]
  by_cases hd : d = i
  · subst hd
    rw [if_pos rfl]
    constructor
    · rintro ⟨sl, hg, hi, h0, h2⟩
      obtain ⟨hg', hne⟩ := live_set_free hg (hi ▸ h0)
      exact ⟨⟨sl, hg', hi, h0, h2⟩, fun e => hne e.2⟩
    · rintro ⟨⟨sl, hg, hi, h0, h2⟩, hne⟩
      exact ⟨sl, (List.getElem?_set_ne fun e => hne ⟨rfl, e.symm⟩).trans hg, hi, h0, h2⟩
  · rw [if_neg hd]
    exact ⟨fun h => ⟨h, fun e => hd e.1⟩, And.left⟩

theorem ref_add {s : FS} {i slot inum : Nat} {name : Bytes} {d' : Inode}
    (ha : addName (s.get i) slot inum name = some d') (h2 : 2 ≤ slot) (h0 : inum ≠ 0) (d j ino : Nat) :
    Ref (s.set i d') d j ino ↔ (d = i ∧ j = slot ∧ ino = inum) ∨ Ref s d j ino := by
  obtain ⟨⟨_, _, hok⟩, hsl, _⟩ := addName_some _ _ _ _ _ ha
  unfold Ref
  rw [get_set]
  by_cases hd : d = i
  · subst hd
    rw [if_pos rfl, hsl, putSlot_get _ _ _ _ hok]
    by_cases hj : j = slot
    · subst hj
      rw [if_pos rfl]
      constructor
      · rintro ⟨sl, hg, hi, _⟩; cases hg; exact .inl ⟨rfl, rfl, hi.symm⟩
      · rintro (⟨_, _, rfl⟩ | ⟨sl, hg, hi, hn, _⟩)
        · exact ⟨_, rfl, rfl, h0, h2⟩
        · exact absurd rfl (slotOk_not_live _ _ _ _ hok hg (hi ▸ hn))
    · rw [if_neg hj]
      exact ⟨.inr, fun h => h.resolve_left fun e => hj e.2.1⟩
  · rw [if_neg hd]
    exact ⟨.inr, fun h => h.resolve_left fun e => hd e.1⟩

theorem ref_nonames (s : FS) (i : Nat) (x : Inode) (hx : x.slots.length ≤ 2) (d j ino : Nat) :
    Ref (s.set i x) d j ino ↔ Ref s d j ino ∧ d ≠ i := by
  unfold Ref
  rw [get_set]
  by_cases hd : d = i
  · subst hd
    rw [if_pos rfl]
    refine ⟨fun ⟨sl, hg, _, _, h2⟩ => ?_, fun h => absurd rfl h.2⟩
    exact absurd (Nat.lt_of_le_of_lt h2 (List.getElem?_eq_some_iff.mp hg).1) (Nat.not_lt.mpr hx)
  · rw [if_neg hd]
    exact ⟨fun h => ⟨h, hd⟩, And.left⟩

theorem freshInode_short (kind gen inum parent : Nat) (t : Array UInt8) :
    (freshInode kind gen inum parent t).slots.length ≤ 2 := by
  rw [freshInode_slots]; split <;> simp

theorem freshInode_hasDots (kind gen inum parent : Nat) (t : Array UInt8) (hi : inum ≠ 0) (hp : parent ≠ 0)
    (hk : (freshInode kind gen inum parent t).kind = NF3DIR) : HasDots (freshInode kind gen inum parent t) := by
  rw [freshInode_kind] at hk
  exact ⟨inum, parent, by simp [freshInode_slots, hk], hi, by simp [freshInode_slots, hk], hp⟩

theorem mkfs_noref (u : Bool) (sz d j ino : Nat) : ¬ Ref (mkfs u sz) d j ino := by
  rintro ⟨sl, hg, _, _, hj⟩
  rw [mkfs_get] at hg
  split at hg
  · rw [freshInode_slots, if_pos rfl, List.getElem?_eq_none (by simpa using hj)] at hg; cases hg
  · cases hg

theorem WFN_mkfs (u : Bool) (sz : Nat) : WFN (mkfs u sz) := by
  refine ⟨mkfs_NU u sz, fun d hk => ?_, fun d hk => ?_, fun d j ino hr => absurd hr (mkfs_noref u sz d j ino),
    fun d j _ _ ino hr => absurd hr (mkfs_noref u sz d j ino), by rw [mkfs_get]; rfl⟩ <;>
    rw [mkfs_get] at hk ⊢ <;> split at hk
  · rw [if_pos ‹_›]; exact freshInode_hasDots _ _ _ _ _ (by decide) (by decide) hk
  · cases hk
  · exact absurd rfl hk
  · rw [if_neg ‹_›]

theorem WFN_set_same (s : FS) (i : Nat) (x : Inode) (h : WFN s) (hs : x.slots = (s.get i).slots)
    (hk : x.kind = (s.get i).kind) : WFN (s.set i x) := by
  have hkind := get_set_congr (·.kind) hk
  refine ⟨NU_set _ _ _ h.nu (hs ▸ h.nu i), ?_, ?_, ?_, ?_, hkind 0 ▸ h.zero_free⟩
  · exact forall_get_set (Q := fun x => x.kind = NF3DIR → HasDots x) h.dots i fun hd => by
      simp only [HasDots, hs]; exact h.dots i (hk ▸ hd)
  · exact forall_get_set (Q := fun x => x.kind ≠ NF3DIR → x.slots = []) h.noslots i fun hd => hs ▸ h.noslots i (hk ▸ hd)
  · intro d j ino hr; rw [hkind]; exact h.nd d j ino ((ref_data _ _ _ hs _ _ _).1 hr)
  · intro d1 i1 d2 i2 ino hr1 hr2
    exact h.ur _ _ _ _ _ ((ref_data _ _ _ hs _ _ _).1 hr1) ((ref_data _ _ _ hs _ _ _).1 hr2)

theorem rem_kind (s : FS) (i idx j : Nat) : ((s.set i (remNameAt (s.get i) idx)).get j).kind = (s.get j).kind :=
  get_set_congr (·.kind) (x := remNameAt (s.get i) idx) rfl j

theorem WFN_rem (s : FS) (i idx : Nat) (h : WFN s) (h2 : 2 ≤ idx) : WFN (s.set i (remNameAt (s.get i) idx)) := by
  have hkind := rem_kind s i idx
  refine ⟨NU_set _ _ _ h.nu (remNameAt_nodup _ _ (h.nu _)), ?_, ?_, ?_, ?_, hkind 0 ▸ h.zero_free⟩
  · exact forall_get_set (Q := fun x => x.kind = NF3DIR → HasDots x) h.dots i fun hd =>
      (h.dots i hd).congr fun _ => remNameAt_low _ h2
  · exact forall_get_set (Q := fun x => x.kind ≠ NF3DIR → x.slots = []) h.noslots i fun hd => by
      simp only [remNameAt, h.noslots i hd, List.set_nil]
  · intro d j ino hr; rw [hkind]; exact h.nd d j ino ((ref_rem _ _ _ _ _ _).1 hr).1
  · intro d1 i1 d2 i2 ino hr1 hr2
    exact h.ur _ _ _ _ _ ((ref_rem _ _ _ _ _ _).1 hr1).1 ((ref_rem _ _ _ _ _ _).1 hr2).1

theorem WFN_nonames (s : FS) (i : Nat) (x : Inode) (h : WFN s) (hx : x.slots.length ≤ 2)
    (hnu : (liveNames x.slots).Nodup) (hd : x.kind = NF3DIR → HasDots x) (hn : x.kind ≠ NF3DIR → x.slots = [])
    (href : x.kind = 0 → ∀ d j, ¬ Ref s d j i) (h0 : i = 0 → x.kind = 0) : WFN (s.set i x) := by
  refine ⟨NU_set _ _ _ h.nu hnu, forall_get_set (Q := fun x => x.kind = NF3DIR → HasDots x) h.dots i hd,
    forall_get_set (Q := fun x => x.kind ≠ NF3DIR → x.slots = []) h.noslots i hn, ?_, ?_, ?_⟩
  · intro d j ino hr
    have hold := ((ref_nonames _ _ _ hx _ _ _).1 hr).1
    rw [get_set]
    split
    · rename_i he; exact fun hk => href hk d j (he ▸ hold)
    · exact h.nd d j ino hold
  · intro d1 i1 d2 i2 ino hr1 hr2
    exact h.ur _ _ _ _ _ ((ref_nonames _ _ _ hx _ _ _).1 hr1).1 ((ref_nonames _ _ _ hx _ _ _).1 hr2).1
  · rw [get_set]
    split
    · rename_i he; exact h0 he.symm
    · exact h.zero_free

theorem WFN_add {s : FS} {i slot inum : Nat} {name : Bytes} {d' : Inode} (h : WFN s)
    (ha : addName (s.get i) slot inum name = some d') (hNU : NU (s.set i d'))
    (hl : (s.get inum).kind ≠ 0) (hun : ∀ d j, ¬ Ref s d j inum) : WFN (s.set i d') := by
  obtain ⟨⟨hdk, _, hok⟩, hsl, _, hk', _⟩ := addName_some _ _ _ _ _ ha
  have hdots := h.dots i hdk
  have href := ref_add ha (slotOk_ge_two _ slot hdots hok) (fun h0 => hl (h0 ▸ h.zero_free))
  have hkind := get_set_congr (·.kind) hk'
  refine ⟨hNU, ?_, ?_, ?_, ?_, hkind 0 ▸ h.zero_free⟩
  · exact forall_get_set (Q := fun x => x.kind = NF3DIR → HasDots x) h.dots i fun _ =>
      hdots.congr fun _ => addName_low hdots ha
  · exact forall_get_set (Q := fun x => x.kind ≠ NF3DIR → x.slots = []) h.noslots i fun hd => absurd (hk'.trans hdk) hd
  · intro d j ino hr
    rw [hkind]
    rcases (href d j ino).1 hr with ⟨_, _, hi⟩ | hold
    · exact hi ▸ hl
    · exact h.nd d j ino hold
  · intro d1 i1 d2 i2 ino hr1 hr2
    rcases (href d1 i1 ino).1 hr1 with ⟨e1, f1, g1⟩ | ho1 <;> rcases (href d2 i2 ino).1 hr2 with ⟨e2, f2, g2⟩ | ho2
    · exact ⟨e1.trans e2.symm, f1.trans f2.symm⟩
    · exact absurd (g1 ▸ ho2) (hun d2 i2)
    · exact absurd (g2 ▸ ho1) (hun d1 i1)
    · exact h.ur _ _ _ _ _ ho1 ho2

theorem unlinked_WFN (s : FS) (dino idx cino : Nat) (h : WFN s) (hdk : (s.get dino).kind = NF3DIR)
    (href : Ref s dino idx cino) : WFN (unlinked s dino idx cino) := by
  refine WFN_nonames _ cino (freeInode _) (WFN_rem s dino idx h href.idx_ge) (Nat.zero_le 2)
    (freeInode_nodup _) (fun hk => nomatch hk) (fun _ => rfl) (fun _ d j hr => ?_) (fun _ => rfl)
  -- a second name for the freed object would contradict uniqueness
  obtain ⟨hold, hnot⟩ := (ref_rem _ _ _ _ _ _).1 hr
  exact hnot (h.ur d j dino idx cino hold href)

theorem moved_WFN (s1 : FS) (slot fd fidx td fino : Nat) (tname : Bytes) (d' : Inode) (h : WFN s1)
    (hfdk : (s1.get fd).kind = NF3DIR) (href : Ref s1 fd fidx fino)
    (ha : addName ((s1.set fd (remNameAt (s1.get fd) fidx)).get td) slot fino tname = some d')
    (hNU : NU ((s1.set fd (remNameAt (s1.get fd) fidx)).set td d')) :
    WFN ((s1.set fd (remNameAt (s1.get fd) fidx)).set td d') := by
  refine WFN_add (WFN_rem s1 fd fidx h href.idx_ge) ha hNU ?_ fun d j hr => ?_
  · rw [rem_kind]; exact h.nd fd fidx fino href
  · obtain ⟨hold, hnot⟩ := (ref_rem _ _ _ _ _ _).1 hr
    exact hnot (h.ur d j fd fidx fino hold href)

theorem created_WFN {s : FS} {inum dino slot kind gen : Nat} {name : Bytes} {t : Array UInt8} {d' : Inode} (h : WFN s)
    (hk : kind ≠ 0) (hne : dino ≠ inum) (hfree : (s.get inum).kind = 0) (h2 : 2 ≤ inum)
    (ha : addName (s.get dino) slot inum name = some d')
    (hNU : NU ((s.set inum (freshInode kind gen inum dino t)).set dino d')) :
    WFN ((s.set inum (freshInode kind gen inum dino t)).set dino d') := by
  have hdino0 : dino ≠ 0 := fun h0 => nomatch (h0 ▸ (addName_some _ _ _ _ _ ha).1.1).symm.trans h.zero_free
  have hf2 := freshInode_short kind gen inum dino t
  have hW := WFN_nonames s inum _ h hf2 (freshInode_nodup _ _ _ _ _)
    (freshInode_hasDots _ _ _ _ _ (by omega) hdino0)
    (fun hn => by rw [freshInode_kind] at hn; rw [freshInode_slots, if_neg hn])
    (fun h0 => absurd ((freshInode_kind ..).symm.trans h0) hk) (fun h0 => by omega)
  rw [← get_set_ne s inum dino _ hne] at ha
  refine WFN_add hW ha hNU ?_ fun d j hr => ?_
  · rw [get_set_same, freshInode_kind]; exact hk
  · exact h.nd d j inum ((ref_nonames _ _ _ hf2 _ _ _).1 hr).1 hfree

/-- the names of ONE object `x` become those in `N` (none, or one); every other object keeps its names, its kind and its
    "." and ".." (`x = 0`, the number no object has, when no name changes) -/
structure Renames (s s' : FS) (x : Nat) (N : Nat → Nat → Prop) : Prop where
  own : ∀ d j, Ref s' d j x ↔ N d j
  others : ∀ d j i, i ≠ x → (Ref s' d j i ↔ Ref s d j i)
  kind : ∀ j, j ≠ x → (s'.get j).kind = (s.get j).kind
  low : ∀ j k, j ≠ x → k < 2 → (s'.get j).slots[k]? = (s.get j).slots[k]?

theorem data_renames {s : FS} {i : Nat} {x : Inode} (hs : x.slots = (s.get i).slots) (hk : x.kind = (s.get i).kind) :
    Renames s (s.set i x) 0 fun _ _ => False :=
  ⟨fun _ _ => ⟨fun hr => hr.ne_zero rfl, False.elim⟩, fun d j ino _ => ref_data _ _ _ hs d j ino,
    fun j _ => get_set_congr (·.kind) hk j, fun j k _ _ => get_set_congr (·.slots[k]?) (congrArg (·[k]?) hs) j⟩

theorem unlinked_renames {s : FS} {dino idx cino : Nat} (h : WFN s) (href : Ref s dino idx cino)
    (hno : NoRefsFrom s cino) : Renames s (unlinked s dino idx cino) cino fun _ _ => False := by
  have hrefs : ∀ d j i, Ref (unlinked s dino idx cino) d j i ↔ (Ref s d j i ∧ ¬ (d = dino ∧ j = idx)) ∧ d ≠ cino :=
    fun d j i => (ref_nonames _ _ (freeInode _) (Nat.zero_le 2) d j i).trans (and_congr_left' (ref_rem ..))
  refine ⟨fun d j => ?_, fun d j i hi => ?_, fun j hj => unlinked_kind _ _ _ _ _ hj, fun j k hj hk => ?_⟩
  · rw [hrefs]
    exact ⟨fun ⟨⟨hr, hne⟩, _⟩ => hne (h.ur d j dino idx cino hr href), False.elim⟩
  · rw [hrefs]
    exact ⟨fun hr => hr.1.1, fun hr => ⟨⟨hr, fun e => hi (ref_inj (e.1 ▸ e.2 ▸ hr) href)⟩, fun e => hno j i (e ▸ hr)⟩⟩
  · exact (congrArg (·.slots[k]?) (get_set_ne _ _ _ _ hj)).trans
      (get_set_congr (·.slots[k]?) (remNameAt_low _ href.idx_ge hk) j)

theorem created_renames {s : FS} {inum dino slot : Nat} {name : Bytes} {fresh d' : Inode} (h : WFN s)
    (hne : dino ≠ inum) (hfree : (s.get inum).kind = 0) (h2 : 2 ≤ inum) (hf : fresh.slots.length ≤ 2)
    (ha : addName (s.get dino) slot inum name = some d') :
    Renames s ((s.set inum fresh).set dino d') inum fun d j => d = dino ∧ j = slot := by
  have hget := get_set_ne s inum dino fresh hne
  rw [← hget] at ha
  obtain ⟨⟨hdk, _, hok⟩, _, _, hk', _⟩ := addName_some _ _ _ _ _ ha
  have hdots : HasDots ((s.set inum fresh).get dino) := hget ▸ h.dots dino (hget ▸ hdk)
  have href : ∀ d j i, Ref ((s.set inum fresh).set dino d') d j i ↔ (d = dino ∧ j = slot ∧ i = inum) ∨ Ref s d j i ∧ d ≠ inum :=
    fun d j i => (ref_add ha (slotOk_ge_two _ slot hdots hok) (Nat.ne_of_gt (Nat.lt_of_lt_of_le (by decide) h2)) d j i).trans
      (or_congr_right (ref_nonames _ _ _ hf d j i))
  have hno := noRefs_of_not_dir s inum h (by rw [hfree]; decide)
  refine ⟨fun d j => ?_, fun d j i hi => ?_, fun j hj => ?_, fun j k hj hk => ?_⟩
  · rw [href]
    exact ⟨fun hr => hr.elim (fun e => ⟨e.1, e.2.1⟩) fun ho => absurd hfree (h.nd d j inum ho.1), fun e => .inl ⟨e.1, e.2, rfl⟩⟩
  · rw [href]
    exact ⟨fun hr => (hr.resolve_left fun e => hi e.2.2).1, fun hr => .inr ⟨hr, fun e => hno j i (e ▸ hr)⟩⟩
  · exact (get_set_congr (·.kind) hk' j).trans (congrArg (·.kind) (get_set_ne _ _ _ _ hj))
  · exact (get_set_congr (·.slots[k]?) (addName_low hdots ha hk) j).trans (congrArg (·.slots[k]?) (get_set_ne _ _ _ _ hj))

theorem moved_low {s1 : FS} {fd fidx td slot fino : Nat} {tname : Bytes} {d' : Inode} (h : WFN s1) (h2 : 2 ≤ fidx)
    (ha : addName ((s1.set fd (remNameAt (s1.get fd) fidx)).get td) slot fino tname = some d') (j k : Nat) (hk : k < 2) :
    (((s1.set fd (remNameAt (s1.get fd) fidx)).set td d').get j).slots[k]? = (s1.get j).slots[k]? := by
  exact (get_set_congr (·.slots[k]?) (addName_low ((WFN_rem s1 fd fidx h h2).dots td (addName_some _ _ _ _ _ ha).1.1) ha hk) j).trans
    (get_set_congr (·.slots[k]?) (remNameAt_low _ h2 hk) j)

theorem moved_renames {s1 : FS} {fd fidx td slot fino : Nat} {tname : Bytes} {d' : Inode} (h : WFN s1)
    (href : Ref s1 fd fidx fino)
    (ha : addName ((s1.set fd (remNameAt (s1.get fd) fidx)).get td) slot fino tname = some d') :
    Renames s1 ((s1.set fd (remNameAt (s1.get fd) fidx)).set td d') fino fun d j => d = td ∧ j = slot := by
  obtain ⟨⟨hdk, _, hok⟩, _⟩ := addName_some _ _ _ _ _ ha
  have hrefs : ∀ d j i, Ref ((s1.set fd (remNameAt (s1.get fd) fidx)).set td d') d j i ↔
      (d = td ∧ j = slot ∧ i = fino) ∨ Ref s1 d j i ∧ ¬ (d = fd ∧ j = fidx) :=
    fun d j i => (ref_add ha (slotOk_ge_two _ slot ((WFN_rem s1 fd fidx h href.idx_ge).dots td hdk) hok) href.ne_zero
      d j i).trans (or_congr_right (ref_rem ..))
  refine ⟨fun d j => ?_, fun d j i hi => ?_, fun j _ => (moved_kind_gen ha j).1, fun j k _ => moved_low h href.idx_ge ha j k⟩
  · rw [hrefs]
    exact ⟨fun hr => hr.elim (fun e => ⟨e.1, e.2.1⟩) fun ho => absurd (h.ur d j fd fidx fino ho.1 href) ho.2,
      fun e => .inl ⟨e.1, e.2, rfl⟩⟩
  · rw [hrefs]
    exact ⟨fun hr => (hr.resolve_left fun e => hi e.2.2).1, fun hr => .inr ⟨hr, fun e => hi (ref_inj (e.1 ▸ e.2 ▸ hr) href)⟩⟩

/-- What RENAME's guards give: the source name is a name, and is still one in `s1`, once the target — which had a name, and
    none of its own — was unlinked.  `I` is whatever invariant the caller carries across that unlinking (`hunl`). -/
theorem renamed_source {I : FS → Prop} {s s1 : FS} {c : Choice} {ffh fname tfh tname : Bytes} {fd td fino fidx : Nat}
    {d' : Inode} (h : WFN s) (g : CanRename s c ffh fname tfh tname fd td fino fidx s1 d') (hI : I s)
    (hunl : ∀ tino tidx, Ref s td tidx tino → NoRefsFrom s tino → I (unlinked s td tidx tino)) :
    I s1 ∧ Ref s1 fd fidx fino ∧ (s1.get fino).kind = (s.get fino).kind := by
  have href := lookupIn_ref h g.look g.legalF
  rcases g.target with ⟨_, rfl⟩ | ⟨tino, tidx, gt, rfl⟩
  · exact ⟨hI, href, rfl⟩
  · have hreft := lookupIn_ref h gt.look g.legalT
    have hno := noRefs_of_guard s tino h gt.empty
    have htf : tino ≠ fino := by
      rintro rfl
      exact g.notSelf ⟨(h.ur fd fidx td tidx tino href hreft).1, by rw [gt.look]; rfl⟩
    have hR := unlinked_renames h hreft hno
    exact ⟨hunl tino tidx hreft hno, (hR.others fd fidx fino (Ne.symm htf)).2 href, hR.kind fino (Ne.symm htf)⟩

theorem Eff.wfn {s : FS} {c : Choice} {op : Op} {p : FS × Reply} (e : Eff s c op p) (h : WFN s) : WFN p.1 := by
  have hNU := e.nu h.nu
  cases e with
  | same => exact h
  | data _ i x _ _ _ hx => exact WFN_set_same s i x h hx.slots hx.kind
  | created _ _ _ _ _ _ _ hk g => exact created_WFN h hk g.ne g.free g.two g.add hNU
  | removed _ name dino cino idx hill g =>
    have href := lookupIn_ref h g.look hill
    exact unlinked_WFN s dino idx cino h (ref_dir h href) href
  | renamed _ _ _ tname fd td fino fidx s1 d' g =>
    obtain ⟨hW1, hR1, _⟩ := renamed_source h g h fun tino tidx hr _ => unlinked_WFN s td tidx tino h (ref_dir h hr) hr
    exact moved_WFN s1 c.slot fd fidx td fino tname d' hW1 (ref_dir hW1 hR1) hR1 g.add hNU

theorem doCreate_WFN (s : FS) (c : Choice) (dfh name : Bytes) (kind : Nat) (t : Array UInt8)
    (hkind : kind ≠ 0) (h : WFN s) : WFN (doCreate s c dfh name kind t).1 :=
  (doCreate_eff s c (.mkdir dfh name) dfh name kind t hkind rfl).wfn h

theorem doRemove_WFN (s : FS) (dfh name : Bytes) (isdir : Bool) (h : WFN s) : WFN (doRemove s dfh name isdir).1 :=
  (doRemove_eff s {} (.remove dfh name) dfh name isdir rfl).wfn h

theorem doRename_WFN (s : FS) (c : Choice) (ffh fname tfh tname : Bytes) (h : WFN s) :
    WFN (doRename s c ffh fname tfh tname).1 :=
  (doRename_eff s c ffh fname tfh tname).wfn h

theorem step_WFN (s : FS) (op : Op) (c : Choice) (h : WFN s) : WFN (step s op c).1 :=
  (step_eff s op c).wfn h

theorem run_WFN (s : FS) (ops : List (Op × Choice)) (h : WFN s) : WFN (run s ops).1 :=
  run_invariant step_WFN s ops h

end GoNfsd.Model.Fs
