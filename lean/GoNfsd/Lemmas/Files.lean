import GoNfsd.Lemmas.FileData

/-! Several files on one disk (M7d, `G`): blocks go from file to file through the allocator, and
    no file ever shows a byte of another.  The zero-bytes clause of `FreshOK` is DERIVED here
    (`freshOK_of_GFresh`) from the invariant "a block nobody owns holds zeros", which `FreeBlock`'s zeroing maintains. -/
namespace GoNfsd.Model.FileData
open GoNfsd.Model.Fs (Ext byteAt readBytes)

def NoneBeyond (f : F) : Prop := ∀ i, roundUp f.size ≤ i → f.map i = 0

theorem write_none_beyond (f : F) (fresh : Nat → Nat) (off : Nat) (bytes : List UInt8) (h : NoneBeyond f) :
    NoneBeyond (f.write fresh off bytes) := by
  intro i hi
  rw [write_size, roundUp_le] at hi
  show (f.writeFrom fresh off bytes).map i = 0
  rw [writeFrom_map, if_neg, h i ((roundUp_le _ _).2 (Nat.le_trans (Nat.le_max_left _ _) hi))]
  -- a block the loop passes begins before the end of the write
  rintro ⟨_, k, hk, rfl⟩
  exact Nat.lt_irrefl _ (calc
    off + k < off + bytes.length := Nat.add_lt_add_left hk off
    _ ≤ max f.size (off + bytes.length) := Nat.le_max_right _ _
    _ ≤ (off + k) / BS * BS := hi
    _ ≤ off + k := Nat.div_mul_le_self _ _)

theorem mem_dropped (f : F) (n b : Nat) :
    b ∈ f.dropped n ↔ ∃ i, i < roundUp f.size ∧ roundUp n ≤ i ∧ f.map i = b := by
  simp [F.dropped, and_assoc]

theorem resizeZ_size (f : F) (n : Nat) : (f.resizeZ n).size = n := resize_size f n

theorem resizeZ_data (f : F) (n b o : Nat) :
    (f.resizeZ n).data b o = if b ≠ 0 ∧ b ∈ f.dropped n then 0 else (f.resize n).data b o := rfl

theorem resizeZ_cell (f : F) (n : Nat) (hi : Inj f) (p : Nat) : (f.resizeZ n).cell p = (f.resize n).cell p := by
  unfold F.cell
  rw [resizeZ_data, show (f.resizeZ n).map = (f.resize n).map from rfl]
  split
  · rfl
  · next hm =>
    refine if_neg ?_
    rintro ⟨_, hd⟩
    obtain ⟨i, hlt, hge, he⟩ := (mem_dropped _ _ _).1 hd
    rw [resize_map] at hm he
    by_cases hc : n < f.size ∧ roundUp n ≤ p / BS
    · exact hm (if_pos hc)
    · -- the kept block would be one of those given back
      rw [if_neg hc] at hm he
      rw [hi _ _ hm he.symm] at hc
      rw [lt_roundUp] at hlt
      rw [roundUp_le] at hge
      exact hc ⟨Nat.lt_of_le_of_lt hge hlt, (roundUp_le _ _).2 hge⟩

theorem resizeZ_map (f : F) (n i : Nat) :
    (f.resizeZ n).map i = if n < f.size ∧ roundUp n ≤ i then 0 else f.map i := resize_map f n i

theorem resizeZ_inv (f : F) (n : Nat) (h : Inv f) : Inv (f.resizeZ n) :=
  ⟨(resize_inv f n h).inj, fun p hp => by
    rw [resizeZ_cell f n h.inj p]; exact (resize_inv f n h).tail p hp⟩

theorem resizeZ_refines (f : F) (c : List Ext) (size n : Nat) (h : Inv f) (hr : Rel f c size) :
    Rel (f.resizeZ n) (if n < size then .trunc n :: c else c) n := by
  refine ⟨resizeZ_size f n, fun p => ?_⟩
  rw [← (resize_refines f c size n h hr).2 p, (resizeZ_inv f n h).byte, (resize_inv f n h).byte,
    resizeZ_cell f n h.inj p]

theorem resizeZ_none_beyond (f : F) (n : Nat) (h : NoneBeyond f) : NoneBeyond (f.resizeZ n) := by
  intro i hi
  rw [resizeZ_size] at hi
  show (f.resize n).map i = 0
  rw [resize_map]
  split
  · rfl
  · next hc =>
    rw [roundUp_le] at hi
    exact h i ((roundUp_le _ _).2 (Nat.le_trans (Nat.le_of_not_lt fun hn => hc ⟨hn, (roundUp_le _ _).2 hi⟩) hi))

/-- `Inv` for many files: one owner per block across files, zero tails, nothing mapped beyond the size -/
structure GInv (g : G) : Prop where
  ginj : ∀ a i b j, g.maps a i ≠ 0 → g.maps a i = g.maps b j → a = b ∧ i = j
  tail : ∀ a, TailZero (g.file a)
  beyond : ∀ a, NoneBeyond (g.file a)
  /-- a block nobody owns holds zeros (formatting; `FreeBlock`) -/
  zout : ∀ blk, blk ≠ 0 → (∀ a i, g.maps a i ≠ blk) → ∀ o, g.data blk o = 0

/-- what the allocator guarantees for a write to file `a`: unlike `FreshOK`, nothing about the contents
    of the blocks -/
def GFresh (g : G) (a : Nat) (fresh : Nat → Nat) : Prop :=
  ∀ i, g.maps a i = 0 → fresh i ≠ 0 ∧ (∀ b j, g.maps b j ≠ fresh i) ∧
    (∀ j, g.maps a j = 0 → fresh j = fresh i → j = i)

theorem file_inv (g : G) (h : GInv g) (a : Nat) : Inv (g.file a) :=
  ⟨fun i j hne he => (h.ginj a i a j hne he).2, h.tail a⟩

theorem freshOK_of_GFresh (g : G) (h : GInv g) (a : Nat) (fresh : Nat → Nat) (hf : GFresh g a fresh) :
    FreshOK (g.file a) fresh := by
  intro i hi
  obtain ⟨h0, hr, hu⟩ := hf i hi
  exact ⟨h0, fun j => hr a j, fun o => h.zout _ h0 (fun b j => hr b j) o, hu⟩

theorem setFile_file_same (g : G) (a : Nat) (f : F) : (g.setFile a f).file a = f := by
  unfold G.setFile G.file; simp

theorem setFile_maps_same (g : G) (a : Nat) (f : F) : (g.setFile a f).maps a = f.map :=
  if_pos rfl

theorem setFile_maps_other (g : G) (a b : Nat) (f : F) (h : b ≠ a) : (g.setFile a f).maps b = g.maps b :=
  if_neg h

theorem setFile_sizes_other (g : G) (a b : Nat) (f : F) (h : b ≠ a) : (g.setFile a f).sizes b = g.sizes b :=
  if_neg h

/-- the general step: file `a` is replaced by `f'`, whose block map keeps or drops old blocks or
    takes blocks nobody owned, whose data differ from the old only in blocks the file has before or
    afterwards, and the blocks it gives up hold zeros.  The invariant is kept and NO OTHER FILE
    CHANGES A BYTE. -/
theorem setFile_inv (g : G) (a : Nat) (f' : F) (h : GInv g)
    (hinv : Inv f') (hbeyond : NoneBeyond f')
    (hmap : ∀ i, f'.map i = 0 ∨ f'.map i = g.maps a i ∨ (∀ b j, g.maps b j ≠ f'.map i))
    (hframe : ∀ blk, (∀ j, g.maps a j ≠ blk) → (∀ j, f'.map j ≠ blk) → ∀ o, f'.data blk o = g.data blk o)
    (hdrop : ∀ i, g.maps a i ≠ 0 → (∀ j, f'.map j ≠ g.maps a i) → ∀ o, f'.data (g.maps a i) o = 0) :
    GInv (g.setFile a f') ∧
    ∀ b, b ≠ a → ∀ p, ((g.setFile a f').file b).byte p = (g.file b).byte p := by
  -- a block of another file is not one of `a`'s, neither before nor afterwards
  have hforeign : ∀ b k, b ≠ a → g.maps b k ≠ 0 →
      (∀ j, g.maps a j ≠ g.maps b k) ∧ ∀ j, f'.map j ≠ g.maps b k := by
    intro b k hb hk
    have h1 : ∀ j, g.maps a j ≠ g.maps b k := fun j e => hb (h.ginj b k a j hk e.symm).1
    refine ⟨h1, fun j e => ?_⟩
    rcases hmap j with h0 | h2 | h2
    · exact hk (e ▸ h0)
    · exact h1 j (h2 ▸ e)
    · exact h2 b k e.symm
  have hcell : ∀ b, b ≠ a → ∀ p, ((g.setFile a f').file b).cell p = (g.file b).cell p := by
    intro b hb p
    unfold F.cell G.file
    simp only [setFile_maps_other g a b f' hb]
    split
    · rfl
    · next hm => exact hframe _ (hforeign b _ hb hm).1 (hforeign b _ hb hm).2 _
  have hsize : ∀ b, b ≠ a → ((g.setFile a f').file b).size = (g.file b).size :=
    fun b hb => setFile_sizes_other g a b f' hb
  refine ⟨⟨?_, ?_, ?_, ?_⟩, fun b hb p => by unfold F.byte; rw [hsize b hb, hcell b hb p]⟩
  · intro x i y j hne he
    by_cases hx : x = a <;> by_cases hy : y = a
    · subst hx hy
      rw [setFile_maps_same] at hne he
      exact ⟨rfl, hinv.inj i j hne he⟩
    · subst hx
      rw [setFile_maps_same, setFile_maps_other g x y f' hy] at he
      rw [setFile_maps_same] at hne
      exact absurd he ((hforeign y j hy (he ▸ hne)).2 i)
    · subst hy
      rw [setFile_maps_same, setFile_maps_other g y x f' hx] at he
      rw [setFile_maps_other g y x f' hx] at hne
      exact absurd he.symm ((hforeign x i hx hne).2 j)
    · rw [setFile_maps_other g a x f' hx] at he hne
      rw [setFile_maps_other g a y f' hy] at he
      exact h.ginj x i y j hne he
  · intro b
    by_cases hb : b = a
    · subst hb; rw [setFile_file_same]; exact hinv.tail
    · intro p hp
      rw [hcell b hb p]
      exact h.tail b p (hsize b hb ▸ hp)
  · intro b
    by_cases hb : b = a
    · subst hb; rw [setFile_file_same]; exact hbeyond
    · intro i hi
      show (g.setFile a f').maps b i = 0
      rw [setFile_maps_other g a b f' hb]
      exact h.beyond b i (hsize b hb ▸ hi)
  · -- a block nobody owns afterwards: given up by `a`, or nobody's before and not touched
    intro blk hb0 hno o
    show f'.data blk o = 0
    have hno_a : ∀ j, f'.map j ≠ blk := fun j => setFile_maps_same g a f' ▸ hno a j
    by_cases hold : ∃ j, g.maps a j = blk
    · obtain ⟨j, rfl⟩ := hold
      exact hdrop j hb0 hno_a o
    · have hold' : ∀ j, g.maps a j ≠ blk := fun j e => hold ⟨j, e⟩
      rw [hframe blk hold' hno_a o]
      refine h.zout blk hb0 (fun b j => ?_) o
      by_cases hb : b = a
      · exact hb ▸ hold' j
      · exact setFile_maps_other g a b f' hb ▸ hno b j

theorem gwrite_ok (g : G) (a : Nat) (fresh : Nat → Nat) (off : Nat) (bytes : List UInt8)
    (h : GInv g) (hf : GFresh g a fresh) :
    GInv (g.write a fresh off bytes) ∧
    (g.write a fresh off bytes).file a = (g.file a).write fresh off bytes ∧
    ∀ b, b ≠ a → ∀ p, ((g.write a fresh off bytes).file b).byte p = (g.file b).byte p := by
  have hfo := freshOK_of_GFresh g h a fresh hf
  have hfi := file_inv g h a
  obtain ⟨hG, hoth⟩ := setFile_inv g a ((g.file a).write fresh off bytes) h
    (write_inv _ fresh off bytes hfi hfo)
    (write_none_beyond _ fresh off bytes (h.beyond a))
    (fun i => by
      rw [show ((g.file a).write fresh off bytes).map i = _ from writeFrom_map fresh bytes _ off i]
      split
      · next hc => exact .inr (.inr (hf i hc.1).2.1)
      · exact .inr (.inl rfl))
    (fun blk _ hb o => (writeFrom_ok fresh bytes _ off hfi.inj hfo).2.2.2 blk hb o)
    (fun i hi hb => absurd (writeFrom_keep fresh bytes (g.file a) off i hi) (hb i))
  exact ⟨hG, setFile_file_same _ _ _, hoth⟩

theorem gresize_ok (g : G) (a n : Nat) (h : GInv g) :
    GInv (g.resize a n) ∧
    (g.resize a n).file a = (g.file a).resizeZ n ∧
    ∀ b, b ≠ a → ∀ p, ((g.resize a n).file b).byte p = (g.file b).byte p := by
  obtain ⟨hG, hoth⟩ := setFile_inv g a ((g.file a).resizeZ n) h
    (resizeZ_inv _ n (file_inv g h a)) (resizeZ_none_beyond _ n (h.beyond a))
    (fun i => by
      rw [resizeZ_map]
      split
      · exact .inl rfl
      · exact .inr (.inl rfl))
    (fun blk hb _ o => by
      rw [resizeZ_data, if_neg, resize_data, if_neg]
      · rfl
      · exact fun hc => hb _ hc.2.2.1.symm
      · rintro ⟨_, hd⟩
        obtain ⟨i, _, _, he⟩ := (mem_dropped _ _ _).1 hd
        exact hb i he)
    (fun i hi hb o => by
      rw [resizeZ_data, if_pos]
      refine ⟨hi, (mem_dropped _ _ _).2 ⟨i, Nat.lt_of_not_le fun hge => hi (h.beyond a i hge), ?_, rfl⟩⟩
      have := hb i
      rw [resizeZ_map] at this
      split at this
      · next hc => exact hc.2
      · exact absurd rfl this)
  exact ⟨hG, setFile_file_same _ _ _, hoth⟩

theorem gresize_zero_frees_everything (g : G) (a : Nat) (h : GInv g) :
    (∀ i, (g.resize a 0).maps a i = 0) ∧
    ∀ i, g.maps a i ≠ 0 →
      (∀ b j, (g.resize a 0).maps b j ≠ g.maps a i) ∧ ∀ o, (g.resize a 0).data (g.maps a i) o = 0 := by
  obtain ⟨hG, hown, _⟩ := gresize_ok g a 0 h
  have hmap : ∀ i, (g.resize a 0).maps a i = 0 := fun i =>
    hG.beyond a i (by rw [hown, resizeZ_size]; exact (roundUp_le _ _).2 (Nat.zero_le _))
  refine ⟨hmap, fun i hi => ?_⟩
  have hnone : ∀ b j, (g.resize a 0).maps b j ≠ g.maps a i := by
    intro b j
    by_cases hb : b = a
    · subst hb; rw [hmap j]; exact Ne.symm hi
    · rw [show (g.resize a 0).maps b = g.maps b from setFile_maps_other g a b _ hb]
      exact fun he => hb (h.ginj a i b j hi he.symm).1.symm
  exact ⟨hnone, hG.zout _ hi hnone⟩

inductive GOp where
  | write (a : Nat) (fresh : Nat → Nat) (off : Nat) (data : Array UInt8)
  | resize (a n : Nat)

def G.apply (g : G) : GOp → G
  | .write a fresh off data => g.write a fresh off data.toList
  | .resize a n => g.resize a n

/-- the content logs and sizes of the reference model, file by file -/
abbrev Logs := Nat → List Ext × Nat

def logsApply (L : Logs) : GOp → Logs
  | .write a _ off data => fun x => if x = a then logApply (L x) (.write (fun _ => 0) off data) else L x
  | .resize a n => fun x => if x = a then logApply (L x) (.resize n) else L x

def GFreshAll : G → List GOp → Prop
  | _, [] => True
  | g, op :: rest =>
    (match op with | .write a fresh _ _ => GFresh g a fresh | .resize _ _ => True) ∧ GFreshAll (g.apply op) rest

def GRel (g : G) (L : Logs) : Prop := ∀ a, Rel (g.file a) (L a).1 (L a).2

theorem setFile_rel (g : G) (a : Nat) (f' : F) (L L' : Logs) (hr : GRel g L)
    (hown : Rel f' (L' a).1 (L' a).2) (hL : ∀ x, x ≠ a → L' x = L x)
    (hoth : ∀ b, b ≠ a → ∀ p, ((g.setFile a f').file b).byte p = (g.file b).byte p) :
    GRel (g.setFile a f') L' := by
  intro x
  by_cases hx : x = a
  · subst hx; rw [setFile_file_same]; exact hown
  · rw [hL x hx]
    exact ⟨(setFile_sizes_other g a x f' hx).trans (hr x).1, fun p => (hoth x hx p).trans ((hr x).2 p)⟩

theorem ghistory_refines (ops : List GOp) :
    ∀ (g : G) (L : Logs), GInv g → GRel g L → GFreshAll g ops →
      GInv (ops.foldl G.apply g) ∧ GRel (ops.foldl G.apply g) (ops.foldl logsApply L) := by
  induction ops with
  | nil => intro g L hi hr _; exact ⟨hi, hr⟩
  | cons op rest ih =>
    intro g L hi hr hf
    cases op with
    | write a fresh off data =>
      obtain ⟨hG, _, hoth⟩ := gwrite_ok g a fresh off data.toList hi hf.1
      refine ih _ _ hG (setFile_rel g a _ L _ hr ?_ (fun x hx => if_neg hx) hoth) hf.2
      rw [show logsApply L (.write a fresh off data) a = _ from if_pos rfl]
      exact write_refines (g.file a) fresh (L a).1 (L a).2 off data (file_inv g hi a)
        (freshOK_of_GFresh g hi a fresh hf.1) (hr a)
    | resize a n =>
      obtain ⟨hG, _, hoth⟩ := gresize_ok g a n hi
      refine ih _ _ hG (setFile_rel g a _ L _ hr ?_ (fun x hx => if_neg hx) hoth) hf.2
      rw [show logsApply L (.resize a n) a = _ from if_pos rfl]
      exact resizeZ_refines (g.file a) (L a).1 (L a).2 n (file_inv g hi a) (hr a)

def G.empty : G := { maps := fun _ _ => 0, sizes := fun _ => 0, data := fun _ _ => 0 }

theorem gempty_inv : GInv G.empty :=
  ⟨fun _ _ _ _ h _ => absurd rfl h, fun _ _ _ => rfl, fun _ _ _ => rfl, fun _ _ _ _ => rfl⟩

theorem gempty_rel : GRel G.empty (fun _ => ([], 0)) := fun _ => ⟨rfl, fun _ => rfl⟩

end GoNfsd.Model.FileData
