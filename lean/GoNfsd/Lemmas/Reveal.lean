import GoNfsd.Model.Reveal
import GoNfsd.Lemmas.Steps

/-! M14: under the release-after-flush discipline, in every reachable state the keys written by
    pending transactions are still locked by their writers; so a read under the lock by anybody
    else returns exactly what recovery would find. -/
namespace GoNfsd.Model.Reveal

theorem writeOf_none (ws : List (Nat × Nat)) (k : Nat) (h : ∀ kv ∈ ws, kv.1 ≠ k) : writeOf ws k = none := by
  induction ws with
  | nil => rfl
  | cons kv r ih => simp only [writeOf, ih (fun x hx => h x (.tail _ hx)), if_neg (h kv (.head _))]

theorem valOf_none (l : List Commit) (k : Nat) (h : ∀ c ∈ l, ∀ kv ∈ c.2.2, kv.1 ≠ k) : valOf l k = none := by
  induction l with
  | nil => rfl
  | cons c r ih => simp only [valOf, ih (fun x hx => h x (.tail _ hx)), writeOf_none c.2.2 k (h c (.head _))]

theorem valOf_append (a b : List Commit) (k : Nat) :
    valOf (a ++ b) k = match valOf b k with | some v => some v | none => valOf a k := by
  induction a with
  | nil => cases h : valOf b k <;> simp only [List.nil_append, valOf, h]
  | cons c r ih => cases h : valOf b k <;> simp only [List.cons_append, valOf, ih, h]

theorem valOf_append_untouched (a b : List Commit) (k : Nat) (h : ∀ c ∈ b, ∀ kv ∈ c.2.2, kv.1 ≠ k) :
    valOf (a ++ b) k = valOf a k := by
  rw [valOf_append, valOf_none b k h]

/-- the invariant: every key a pending transaction wrote — unstable WRITEs aside — is locked by
    that transaction -/
def Inv (s : St) : Prop := ∀ c ∈ s.pend, c.2.1 = false → ∀ kv ∈ c.2.2, s.lock kv.1 = some c.1

theorem empty_inv : Inv empty := nofun

theorem Inv.mono {s s' : St} (h : Inv s) (hl : s'.lock = s.lock) (hp : ∀ c ∈ s'.pend, c ∈ s.pend) : Inv s' :=
  fun c hc => hl ▸ h c (hp c hc)

theorem Inv.setLock {s : St} (h : Inv s) (k : Nat) (v : Option Nat)
    (hk : ∀ c ∈ s.pend, c.2.1 = false → ∀ kv ∈ c.2.2, kv.1 ≠ k) : Inv { s with lock := upd s.lock k v } :=
  fun c hc hu kv hkv => (if_neg (hk c hc hu kv hkv)).trans (h c hc hu kv hkv)

theorem step_inv (s s' : St) (op : Op) (h : Inv s)
    (hd : match op with | .release t _ => ∀ c ∈ s.pend, c.1 = t → c.2.1 = true | _ => True)
    (hs : step s op = some s') : Inv s' := by
  revert hs hd
  -- the leaves of `step`: 1 acquire, 3 commit with the flush, 4 commit without, 6 flush, 7 the logger, 8 release; 2, 5, 9 refuse
  fun_cases step s op <;> intro hd hs <;> cases hs
  case case1 t k hl =>
    -- a key somebody pending wrote is locked: it is not the one being granted
    exact h.setLock k _ fun c hc hu kv hkv e => by rw [← e, h c hc hu kv hkv] at hl; cases hl
  case case4 t ws wait unst hall _ =>
    intro c hc hu kv hkv
    rcases List.mem_append.mp hc with hc | hc
    · exact h c hc hu kv hkv
    · cases List.mem_singleton.mp hc
      exact eq_of_beq (List.all_eq_true.mp hall kv hkv)
  case case7 n => exact h.mono rfl fun c => List.mem_of_mem_drop
  case case8 t k hl =>
    -- whoever pending wrote `k` holds its lock, so it is the releasing `t`: an unstable WRITE, by the discipline
    refine h.setLock k _ fun c hc hu kv hkv e => ?_
    rw [← e, h c hc hu kv hkv] at hl
    exact Bool.false_ne_true (hu.symm.trans (hd c hc (Option.some.inj hl)))
  all_goals exact h.mono rfl nofun

theorem run_inv (ops : List Op) (s s' : St) (h : Inv s) (hd : Disciplined s ops) (hr : run s ops = some s') : Inv s' :=
  Steps.run_induction (motive := fun s ops s' => Inv s → Disciplined s ops → Inv s') (fun _ => rfl) (fun _ _ _ => rfl)
    (fun _ h _ => h)
    (fun s op s1 _ _ hs ih h hd => ih (step_inv s s1 op h hd.1 hs) (by have := hd.2; rwa [hs] at this))
    ops s s' hr h hd

theorem pending_on_locked_key_is_unstable (s : St) (t k : Nat) (h : Inv s) (hl : s.lock k = some t)
    (c : Commit) (hc : c ∈ s.pend) (hne : c.1 ≠ t) (kv : Nat × Nat) (hkv : kv ∈ c.2.2) (e : kv.1 = k) :
    c.2.1 = true := by
  cases hu : c.2.1 with
  | true => rfl
  | false =>
    have := h c hc hu kv hkv
    rw [e, hl] at this
    exact absurd (Option.some.inj this).symm hne

theorem read_is_recovered_any_prefix (s : St) (t k n : Nat) (h : Inv s) (hl : s.lock k = some t)
    (hp : ∀ c ∈ s.pend, c.1 ≠ t)
    (hu : ∀ c ∈ s.pend, c.2.1 = true → ∀ kv ∈ c.2.2, kv.1 ≠ k) :
    s.read k = valOf (s.dur ++ s.pend.take n) k := by
  have hk : ∀ c ∈ s.pend, ∀ kv ∈ c.2.2, kv.1 ≠ k := fun c hc kv hkv e =>
    hu c hc (pending_on_locked_key_is_unstable s t k h hl c hc (hp c hc) kv hkv e) kv hkv e
  exact (valOf_append_untouched _ _ k hk).trans
    (valOf_append_untouched _ _ k fun c hc => hk c (List.mem_of_mem_take hc)).symm

theorem read_is_recovered (s : St) (t k : Nat) (h : Inv s) (hl : s.lock k = some t)
    (hp : ∀ c ∈ s.pend, c.1 ≠ t)
    (hu : ∀ c ∈ s.pend, c.2.1 = true → ∀ kv ∈ c.2.2, kv.1 ≠ k) : s.read k = s.recovered k :=
  (read_is_recovered_any_prefix s t k 0 h hl hp hu).trans (by rw [List.take_zero, List.append_nil]; rfl)

theorem read_is_recovered_of_stable (ops : List Op) (s : St) (t k : Nat) (hd : Disciplined empty ops)
    (hr : run empty ops = some s) (hl : s.lock k = some t) (hp : ∀ c ∈ s.pend, c.1 ≠ t)
    (hu : ∀ c ∈ s.pend, c.2.1 = false) : s.read k = s.recovered k :=
  read_is_recovered s t k (run_inv ops _ s empty_inv hd hr) hl hp
    fun c hc h1 => absurd ((hu c hc).symm.trans h1) Bool.false_ne_true

theorem step_dur_prefix (s s' : St) (op : Op) (hs : step s op = some s') : s.dur <+: s'.dur := by
  revert hs
  fun_cases step s op <;> intro hs <;> cases hs
  case case3 => exact ⟨_, (List.append_assoc ..).symm⟩
  case case6 | case7 => exact List.prefix_append ..
  all_goals exact List.prefix_rfl

theorem run_dur_prefix (ops : List Op) (s s' : St) (hr : run s ops = some s') : s.dur <+: s'.dur :=
  Steps.run_induction (motive := fun s _ s' => s.dur <+: s'.dur) (fun _ => rfl) (fun _ _ _ => rfl)
    (fun _ => List.prefix_rfl) (fun s op s1 _ _ hs ih => (step_dur_prefix s s1 op hs).trans ih) ops s s' hr

end GoNfsd.Model.Reveal
