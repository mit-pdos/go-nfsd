/- Slot lists by themselves: what `putSlot` and clearing a slot do to the slots, where LOOKUP finds a name, and the
   names in use (`liveNames`) — with unique names a name is held by one slot, and that is the slot LOOKUP finds. -/
import GoNfsd.Model.Fs

namespace GoNfsd.Model.Fs
open GoNfsd.Gen.Consts

theorem slotOk_iff (slots : List Slot) (i : Nat) :
    slotOk slots i = true ↔ i = slots.length ∨ ∃ s, slots[i]? = some s ∧ s.inum = 0 := by
  unfold slotOk
  cases slots[i]? with
  | none => simp
  | some s => simp

theorem slotOk_le (slots : List Slot) (i : Nat) (hok : slotOk slots i = true) : i ≤ slots.length := by
  rcases (slotOk_iff slots i).mp hok with he | ⟨_, hf, _⟩
  · exact Nat.le_of_eq he
  · exact Nat.le_of_lt (List.getElem?_eq_some_iff.mp hf).1

theorem slotOk_not_live (slots : List Slot) (slot j : Nat) (sl : Slot) (hok : slotOk slots slot = true)
    (hg : slots[j]? = some sl) (hl : sl.inum ≠ 0) : j ≠ slot := by
  rintro rfl
  rcases (slotOk_iff slots j).mp hok with he | ⟨_, hf, h0⟩
  · exact Nat.ne_of_lt (List.getElem?_eq_some_iff.mp hg).1 he
  · cases hg.symm.trans hf
    exact hl h0

theorem putSlot_get (slots : List Slot) (i j : Nat) (x : Slot) (hok : slotOk slots i = true) :
    (putSlot slots i x)[j]? = if j = i then some x else slots[j]? := by
  fun_cases putSlot slots i x
  next he =>
    rw [List.getElem?_append, he]
    by_cases hj : j = slots.length
    · rw [if_pos hj, hj, if_neg (Nat.lt_irrefl _), Nat.sub_self]; rfl
    · rw [if_neg hj]
      split
      · rfl
      · rename_i hge
        rw [List.getElem?_eq_none (l := slots) (Nat.le_of_not_lt hge), List.getElem?_eq_none (by simp; omega)]
  next he =>
    have hlt := Nat.lt_of_le_of_ne (slotOk_le slots i hok) he
    rw [List.getElem?_set]
    by_cases hj : j = i
    · rw [if_pos hj, if_pos hj.symm, if_pos hlt]
    · rw [if_neg hj, if_neg (Ne.symm hj)]

theorem putSlot_length (slots : List Slot) (i : Nat) (x : Slot) : slots.length ≤ (putSlot slots i x).length := by
  unfold putSlot; split <;> simp

theorem mem_putSlot {slots : List Slot} {i : Nat} {x a : Slot} (h : a ∈ putSlot slots i x) : a ∈ slots ∨ a = x := by
  unfold putSlot at h
  split at h
  · exact (List.mem_append.mp h).imp_right List.eq_of_mem_singleton
  · exact List.mem_or_eq_of_mem_set h

theorem putSlot_keeps_live (slots : List Slot) (i k : Nat) (x a : Slot) (hok : slotOk slots i = true)
    (h : slots[k]? = some a) (ha : a.inum ≠ 0) : (putSlot slots i x)[k]? = some a := by
  rw [putSlot_get slots i k x hok, if_neg (slotOk_not_live slots i k a hok h ha)]
  exact h

theorem set_free_keeps_or_frees (slots : List Slot) (idx k : Nat) (a : Slot) (h : slots[k]? = some a) :
    (slots.set idx freeSlot)[k]? = some a ∨ (slots.set idx freeSlot)[k]? = some freeSlot := by
  rw [List.getElem?_set]
  by_cases hk : idx = k
  · subst hk
    have := (List.getElem?_eq_some_iff.mp h).1
    simp [this]
  · simp [hk, h]

def matches_ (name : Bytes) (s : Slot) : Prop := s.inum ≠ 0 ∧ s.name = name

instance (name : Bytes) (s : Slot) : Decidable (matches_ name s) := by unfold matches_; infer_instance

theorem lookupGo_none (name : Bytes) (slots : List Slot) (k : Nat) :
    lookupGo name slots k = none ↔ ∀ s ∈ slots, ¬ matches_ name s := by
  fun_induction lookupGo name slots k
  next => exact ⟨fun _ _ h => (nomatch h), fun _ => rfl⟩
  next s rest i h => exact ⟨nofun, fun hall => absurd h (hall s List.mem_cons_self)⟩
  next s rest i h ih => rw [ih, List.forall_mem_cons]; exact ⟨fun hr => ⟨h, hr⟩, And.right⟩

theorem lookupGo_some (name : Bytes) (slots : List Slot) (k ino j : Nat) :
    lookupGo name slots k = some (ino, j) ↔ ∃ i, j = k + i ∧ slots[i]? = some ⟨ino, name⟩ ∧ ino ≠ 0 ∧
      ∀ i' < i, ∀ s', slots[i']? = some s' → ¬ matches_ name s' := by
  fun_induction lookupGo name slots k
  next => exact ⟨nofun, fun ⟨_, _, h, _⟩ => nomatch h⟩
  next s rest k hm =>
    constructor
    · intro h
      cases h
      exact ⟨0, rfl, hm.2 ▸ rfl, hm.1, fun _ h => absurd h (Nat.not_lt_zero _)⟩
    · rintro ⟨i, rfl, hg, _, hfirst⟩
      cases i with
      | zero => cases hg; rfl
      | succ i => exact absurd hm (hfirst 0 (Nat.succ_pos i) s rfl)
  next s rest k hm ih =>
    rw [ih]
    constructor
    · rintro ⟨i, rfl, hg, h0, hfirst⟩
      refine ⟨i + 1, (Nat.add_right_comm k 1 i).trans (Nat.add_assoc k i 1), hg, h0, fun i' hi' s' hs' => ?_⟩
      cases i' with
      | zero => cases hs'; exact hm
      | succ i' => exact hfirst i' (Nat.lt_of_succ_lt_succ hi') s' hs'
    · rintro ⟨i, rfl, hg, h0, hfirst⟩
      cases i with
      | zero => cases hg; exact absurd ⟨h0, rfl⟩ hm
      | succ i =>
        exact ⟨i, (Nat.add_assoc k i 1).symm.trans (Nat.add_right_comm k i 1), hg, h0,
          fun i' hi' s' hs' => hfirst (i' + 1) (Nat.succ_lt_succ hi') s' hs'⟩

theorem lookupSlots_some {slots : List Slot} {name : Bytes} {ino i : Nat} :
    lookupSlots slots name = some (ino, i) ↔ slots[i]? = some ⟨ino, name⟩ ∧ ino ≠ 0 ∧
      ∀ j < i, ∀ sj, slots[j]? = some sj → ¬ matches_ name sj := by
  rw [lookupSlots, lookupGo_some]
  exact ⟨fun ⟨_, e, h⟩ => (e.trans (Nat.zero_add _)) ▸ h, fun h => ⟨i, (Nat.zero_add i).symm, h⟩⟩

def liveNames (slots : List Slot) : List Bytes := (slots.filter fun s => s.inum ≠ 0).map (·.name)

theorem liveNames_cons (s : Slot) (rest : List Slot) :
    liveNames (s :: rest) = if s.inum ≠ 0 then s.name :: liveNames rest else liveNames rest := by
  unfold liveNames
  by_cases h : s.inum = 0 <;> simp [h]

theorem lookupGo_eq_none (name : Bytes) (slots : List Slot) (k : Nat) :
    lookupGo name slots k = none ↔ name ∉ liveNames slots := by
  rw [lookupGo_none, liveNames, List.mem_map]
  simp only [List.mem_filter, decide_eq_true_eq, matches_, not_exists, not_and, and_imp]

theorem mem_liveNames {slots : List Slot} {name : Bytes} :
    name ∈ liveNames slots ↔ ∃ (k : Nat) (sl : Slot), slots[k]? = some sl ∧ sl.inum ≠ 0 ∧ sl.name = name := by
  rw [liveNames, List.mem_map]
  constructor
  · rintro ⟨sl, hm, hn⟩
    rw [List.mem_filter, List.mem_iff_getElem?, decide_eq_true_eq] at hm
    exact ⟨hm.1.choose, sl, hm.1.choose_spec, hm.2, hn⟩
  · rintro ⟨k, sl, hk, hl, hn⟩
    exact ⟨sl, List.mem_filter.mpr ⟨List.mem_of_getElem? hk, decide_eq_true hl⟩, hn⟩

theorem liveNames_inj {slots : List Slot} (hn : (liveNames slots).Nodup) {i j : Nat} {a b : Slot}
    (hi : slots[i]? = some a) (hj : slots[j]? = some b) (ha : a.inum ≠ 0) (hb : b.inum ≠ 0) (he : a.name = b.name) :
    i = j := by
  have hp : slots.Pairwise fun x y => x.inum ≠ 0 → y.inum ≠ 0 → x.name ≠ y.name := by
    rw [liveNames, List.Nodup, List.pairwise_map, List.pairwise_filter] at hn
    exact hn.imp fun h hx hy => h (by simpa using hx) (by simpa using hy)
  obtain ⟨hi', rfl⟩ := List.getElem?_eq_some_iff.mp hi
  obtain ⟨hj', rfl⟩ := List.getElem?_eq_some_iff.mp hj
  rw [List.pairwise_iff_getElem] at hp
  rcases Nat.lt_trichotomy i j with h | h | h
  · exact absurd he (hp i j hi' hj' h ha hb)
  · exact h
  · exact absurd he.symm (hp j i hj' hi' h hb ha)

theorem liveNames_nodup_of_inj {slots : List Slot}
    (h : ∀ (i j : Nat) (a b : Slot), slots[i]? = some a → slots[j]? = some b → a.inum ≠ 0 → b.inum ≠ 0 → a.name = b.name → i = j) :
    (liveNames slots).Nodup := by
  rw [liveNames, List.Nodup, List.pairwise_map, List.pairwise_filter, List.pairwise_iff_getElem]
  intro i j hi hj hlt ha hb he
  exact Nat.ne_of_lt hlt (h i j _ _ (List.getElem?_eq_getElem hi) (List.getElem?_eq_getElem hj)
    (by simpa using ha) (by simpa using hb) he)

theorem live_set_free {slots : List Slot} {idx k : Nat} {sl : Slot} (h : (slots.set idx freeSlot)[k]? = some sl)
    (hl : sl.inum ≠ 0) : slots[k]? = some sl ∧ k ≠ idx := by
  rw [List.getElem?_set] at h
  split at h
  · split at h <;> cases h
    exact absurd rfl hl
  · exact ⟨h, fun e => ‹¬ idx = k› e.symm⟩

theorem live_putSlot {slots : List Slot} {i k : Nat} {x sl : Slot} (hok : slotOk slots i = true)
    (h : (putSlot slots i x)[k]? = some sl) : (k = i ∧ sl = x) ∨ slots[k]? = some sl := by
  rw [putSlot_get _ _ _ _ hok] at h
  split at h
  · exact .inl ⟨‹k = i›, (Option.some.inj h).symm⟩
  · exact .inr h

theorem nodup_set_free (slots : List Slot) (idx : Nat) (h : (liveNames slots).Nodup) :
    (liveNames (slots.set idx freeSlot)).Nodup :=
  liveNames_nodup_of_inj fun _ _ _ _ hi hj ha hb he =>
    liveNames_inj h (live_set_free hi ha).1 (live_set_free hj hb).1 ha hb he

theorem nodup_putSlot (slots : List Slot) (i : Nat) (s : Slot) (hok : slotOk slots i = true)
    (hs : s.inum ≠ 0) (hnot : s.name ∉ liveNames slots) (hn : (liveNames slots).Nodup) :
    (liveNames (putSlot slots i s)).Nodup := by
  refine liveNames_nodup_of_inj fun j k a b hj hk ha hb he => ?_
  rcases live_putSlot hok hj with ⟨rfl, rfl⟩ | hj' <;> rcases live_putSlot hok hk with ⟨rfl, rfl⟩ | hk'
  · rfl
  · exact absurd (mem_liveNames.mpr ⟨k, b, hk', hb, he.symm⟩) hnot
  · exact absurd (mem_liveNames.mpr ⟨j, a, hj', ha, he⟩) hnot
  · exact liveNames_inj hn hj' hk' ha hb he

theorem lookupSlots_of_get {slots : List Slot} (hn : (liveNames slots).Nodup) {i ino : Nat} {name : Bytes}
    (h : slots[i]? = some ⟨ino, name⟩) (h0 : ino ≠ 0) : lookupSlots slots name = some (ino, i) :=
  lookupSlots_some.mpr ⟨h, h0, fun _ hj _ hsj hm => Nat.ne_of_lt hj (liveNames_inj hn hsj h hm.1 h0 hm.2)⟩

theorem name_gone_after_clear {slots : List Slot} {name : Bytes} {ino idx : Nat} (hn : (liveNames slots).Nodup)
    (h : slots[idx]? = some ⟨ino, name⟩) (h0 : ino ≠ 0) : name ∉ liveNames (slots.set idx freeSlot) := by
  intro hm
  obtain ⟨k, sl, hk, hl, hname⟩ := mem_liveNames.mp hm
  obtain ⟨hk', hne⟩ := live_set_free hk hl
  exact hne (liveNames_inj hn hk' h hl h0 hname)

/-! ### the slots as a map name ↦ (inode number, slot index) -/

theorem lookupGo_set (n : Bytes) (x : Slot) (hx : ¬ (x.inum ≠ 0 ∧ x.name = n)) (slots : List Slot) (i k : Nat)
    (h : ∀ s, slots[i]? = some s → ¬ (s.inum ≠ 0 ∧ s.name = n)) : lookupGo n (slots.set i x) k = lookupGo n slots k := by
  induction slots generalizing i k with
  | nil => rfl
  | cons s rest ih =>
    cases i with
    | zero => rw [List.set_cons_zero, lookupGo, lookupGo, if_neg hx, if_neg (h s rfl)]
    | succ i => rw [List.set_cons_succ, lookupGo, lookupGo, ih i (k + 1) h]

theorem lookupGo_append_one (n : Bytes) (x : Slot) (hx : ¬ (x.inum ≠ 0 ∧ x.name = n)) (slots : List Slot) (k : Nat) :
    lookupGo n (slots ++ [x]) k = lookupGo n slots k := by
  induction slots generalizing k with
  | nil => simp only [List.nil_append, lookupGo, if_neg hx]
  | cons s rest ih => rw [List.cons_append, lookupGo, lookupGo, ih]

theorem lookup_putSlot (slots : List Slot) (i a : Nat) (name : Bytes) (hok : slotOk slots i = true) (ha : a ≠ 0)
    (habs : lookupSlots slots name = none) (n : Bytes) :
    lookupSlots (putSlot slots i ⟨a, name⟩) n = if n = name then some (a, i) else lookupSlots slots n := by
  split
  · rename_i hn
    rw [hn]
    refine lookupSlots_some.mpr ⟨by rw [putSlot_get _ _ _ _ hok, if_pos rfl], ha, fun j hj sj hsj => ?_⟩
    rw [putSlot_get _ _ _ _ hok, if_neg (Nat.ne_of_lt hj)] at hsj
    exact (lookupGo_none name slots 0).mp habs sj (List.mem_of_getElem? hsj)
  · rename_i hn
    have hx : ¬ ((⟨a, name⟩ : Slot).inum ≠ 0 ∧ (⟨a, name⟩ : Slot).name = n) := fun hm => hn hm.2.symm
    unfold putSlot lookupSlots
    split
    · exact lookupGo_append_one n _ hx slots 0
    · exact lookupGo_set n _ hx slots i 0 fun s hs hm => slotOk_not_live slots i i s hok hs hm.1 rfl

theorem lookup_set_free (slots : List Slot) (i a : Nat) (name : Bytes) (hu : (liveNames slots).Nodup)
    (hl : lookupSlots slots name = some (a, i)) (n : Bytes) :
    lookupSlots (slots.set i freeSlot) n = if n = name then none else lookupSlots slots n := by
  obtain ⟨hg, h0, _⟩ := lookupSlots_some.mp hl
  split
  · rename_i hn
    rw [hn]
    exact (lookupGo_eq_none ..).mpr (name_gone_after_clear hu hg h0)
  · rename_i hn
    refine lookupGo_set n _ (fun hm => hm.1 rfl) slots i 0 fun s hs hm => hn ?_
    cases hs.symm.trans hg
    exact hm.2.symm

end GoNfsd.Model.Fs
