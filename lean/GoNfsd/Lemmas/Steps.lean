/-! Induction along a run of a partial step function, and the few list facts that more than one model needs. -/
namespace GoNfsd.Steps

/-- `run` is the model's own; all that is used of it are its two defining equations (both hold by `rfl`). -/
theorem run_induction {σ ε : Type} {step : σ → ε → Option σ} {run : σ → List ε → Option σ}
    (nil : ∀ s, run s [] = some s) (cons : ∀ s e es, run s (e :: es) = (step s e).bind (run · es))
    {motive : σ → List ε → σ → Prop} (refl : ∀ s, motive s [] s)
    (head : ∀ s e s1 es s', step s e = some s1 → motive s1 es s' → motive s (e :: es) s') :
    ∀ es s s', run s es = some s' → motive s es s' := by
  intro es
  induction es with
  | nil => intro s s' h; cases (nil s).symm.trans h; exact refl s
  | cons e es ih =>
    intro s s' h
    rw [cons] at h
    cases hs : step s e with
    | none => rw [hs] at h; cases h
    | some s1 => rw [hs] at h; exact head s e s1 es s' hs (ih s1 s' h)

theorem exists_max {α : Type} (l : List α) (f : α → Nat) (h : l ≠ []) : ∃ x ∈ l, ∀ y ∈ l, f y ≤ f x := by
  cases hm : (l.map f).max? with
  | none => exact absurd (List.map_eq_nil_iff.mp (List.max?_eq_none_iff.mp hm)) h
  | some m =>
    obtain ⟨hmem, hle⟩ := List.max?_eq_some_iff.mp hm
    obtain ⟨x, hx, rfl⟩ := List.mem_map.mp hmem
    exact ⟨x, hx, fun y hy => hle _ (List.mem_map_of_mem hy)⟩

theorem getD_set {α : Type} (l : List α) (i j : Nat) (v d : α) (hi : i < l.length) :
    (l.set i v).getD j d = if j = i then v else l.getD j d := by
  simp only [List.getD_eq_getElem?_getD, List.getElem?_set]
  by_cases h : i = j
  · subst h; simp [hi]
  · simp [h, Ne.symm h]

theorem map_range_getD (l : List UInt8) : (List.range l.length).map (fun k => l.getD k 0) = l :=
  List.ext_getElem (by simp) fun k _ h => by simp [List.getD, h]

theorem mem_range'_sub (lo hi p : Nat) : p ∈ List.range' lo (hi - lo) ↔ lo ≤ p ∧ p < hi :=
  List.mem_range'_1.trans (and_congr_right fun h =>
    ⟨fun h2 => Nat.sub_add_cancel h ▸ Nat.add_lt_of_lt_sub (Nat.sub_lt_left_of_lt_add h h2),
     fun h2 => Nat.lt_of_lt_of_eq h2 (Nat.add_sub_cancel' (Nat.le_trans h (Nat.le_of_lt h2))).symm⟩)

end GoNfsd.Steps
