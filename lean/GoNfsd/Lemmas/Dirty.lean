/-
Which index blocks a WRITE writes to (model M7): `bmap` changes the contents of index blocks
only on the path to its target, and a WRITE of up to 513 consecutive file blocks touches at
most four index blocks — the indirect root, the double-indirect root and two middle blocks.
-/
import GoNfsd.Lemmas.ShrinkTree

namespace GoNfsd.Model.BlockMap
open GoNfsd.Gen.Consts

/-- pointers that are set stay as they are through the whole WRITE, so a block whose contents changed on the
    way can be named by its position in the tree at the end -/
theorem writeBlocks_touch (bn n : Nat) (s : S) (ino : Ino) (cnt : Nat) (hw : WFB s ino.blks)
    (hle : bn + cnt + n ≤ MAXBLKS) :
    let w := writeBlocks s ino bn n cnt
    (∀ q, q.valid → ptr s.st ino.blks q ≠ 0 → ptr w.1.st w.2.1.blks q = ptr s.st ino.blks q) ∧
    ∀ y x, w.1.st y x ≠ s.st y x →
      y ≠ 0 ∧ ∃ b, bn + cnt ≤ b ∧ b < bn + cnt + n ∧ ∃ P ∈ anc (posOf b), P.valid ∧ ptr w.1.st w.2.1.blks P = y := by
  fun_induction writeBlocks s ino bn n cnt with
  | case1 s ino cnt => exact ⟨fun _ _ _ => rfl, fun _ _ h => absurd rfl h⟩
  | case2 s ino n cnt s' blks' _ h =>
    have hbn := MAXBLKS_eq ▸ Nat.lt_of_lt_of_le (Nat.lt_add_of_pos_right n.succ_pos) hle
    have hok := bmap_step s ino.blks (bn + cnt) hw hbn
    rw [h] at hok
    refine ⟨hok.keep, fun y x hyx => ?_⟩
    obtain ⟨hy, P, h⟩ := hok.touch y x hyx
    exact ⟨hy, bn + cnt, Nat.le_refl _, Nat.lt_add_of_pos_right n.succ_pos, P, h⟩
  | case3 s ino n cnt s' blks' blkno _ h _ ih =>
    have hbn := MAXBLKS_eq ▸ Nat.lt_of_lt_of_le (Nat.lt_add_of_pos_right n.succ_pos) hle
    have hok := bmap_step s ino.blks (bn + cnt) hw hbn
    rw [h] at hok
    have e : bn + (cnt + 1) + n = bn + cnt + (n + 1) := by rw [← Nat.add_assoc, Nat.add_right_comm, Nat.add_assoc]
    obtain ⟨hk, ht⟩ := ih hok.wf (e ▸ hle)
    refine ⟨fun q hq hne => (hk q hq (by rw [hok.keep q hq hne]; exact hne)).trans (hok.keep q hq hne),
      fun y x hyx => ?_⟩
    by_cases hl : (writeBlocks s' { ino with blks := blks' } bn n (cnt + 1)).1.st y x = s'.st y x
    · -- changed by this block's mapping, and kept by the rest
      obtain ⟨hy, P, hP, hv, hPy⟩ := hok.touch y x (hl ▸ hyx)
      exact ⟨hy, bn + cnt, Nat.le_refl _, Nat.lt_add_of_pos_right n.succ_pos, P, hP, hv,
        (hk P hv (by rw [hPy]; exact hy)).trans hPy⟩
    · obtain ⟨hy, b, hb1, hb2, h⟩ := ht y x hl
      exact ⟨hy, b, Nat.le_of_succ_le hb1, e ▸ hb2, h⟩

theorem write_touches_four_index_blocks (s : S) (ino : Ino) (bn n : Nat) (h : WFB s ino.blks)
    (hn : n ≤ NBLKBLK + 1) (hle : bn + n ≤ MAXBLKS) (y x : Nat) :
    let w := writeBlocks s ino bn n 0
    let j := (bn - NDIRECT - NBLKBLK) / NBLKBLK
    w.1.st y x ≠ s.st y x → ∃ P ∈ [Pos.iroot, Pos.droot, Pos.dmid j, Pos.dmid (j + 1)], ptr w.1.st w.2.1.blks P = y := by
  intro w j hch
  obtain ⟨_, b, hb1, hb2, P, hP, _, hpy⟩ := (writeBlocks_touch bn n s ino 0 h hle).2 y x hch
  refine ⟨P, ?_, hpy⟩
  induction b using range_cases with
  | dir i hi => rw [posOf, if_pos hi] at hP; cases hP
  | ind i hi => rw [posOf_ind hi] at hP; rw [List.mem_singleton.1 hP]; exact List.mem_cons_self
  | dind o =>
    rw [posOf_dind] at hP
    rcases List.mem_cons.1 hP with rfl | hP
    · exact List.mem_cons_of_mem _ List.mem_cons_self
    · rw [List.mem_singleton.1 hP]
      -- `o` lies at most `NBLKBLK` blocks beyond the place of `bn` in the range
      have l1 : (bn - NDIRECT - NBLKBLK) / NBLKBLK ≤ o / NBLKBLK :=
        Nat.div_le_div_right (Nat.sub_le_iff_le_add'.2 (Nat.sub_le_iff_le_add'.2 hb1))
      have hb : o + NDIRECT ≤ bn := by omega
      have l2 : o / NBLKBLK ≤ (bn - NDIRECT - NBLKBLK + NBLKBLK) / NBLKBLK :=
        Nat.div_le_div_right (Nat.le_trans (Nat.le_sub_of_add_le hb) (Nat.le_add_of_sub_le (Nat.le_refl _)))
      rw [Nat.add_div_right _ (by decide)] at l2
      rcases Nat.eq_or_lt_of_le l1 with e | e
      · rw [← e]; exact List.mem_cons_of_mem _ (List.mem_cons_of_mem _ List.mem_cons_self)
      · rw [Nat.le_antisymm l2 e]
        exact List.mem_cons_of_mem _ (List.mem_cons_of_mem _ (List.mem_cons_of_mem _ List.mem_cons_self))

end GoNfsd.Model.BlockMap
