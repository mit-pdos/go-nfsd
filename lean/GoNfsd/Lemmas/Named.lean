/-
"Every object in use other than the root has a name" (with `WFN`: exactly one name), as the
invariant `WFO` of every operation of the reference file system M6.
-/
import GoNfsd.Lemmas.Refs

namespace GoNfsd.Model.Fs
open GoNfsd.Gen.Consts

/-- `WFN`, and every object in use other than the root has a name (with `WFN.ur`: exactly one) -/
structure WFO (s : FS) : Prop where
  wfn : WFN s
  root_dir : (s.get ROOTINUM).kind = NF3DIR
  /-- the root has no name (it cannot be removed, renamed or overwritten) -/
  root_unnamed : ∀ d idx, ¬ Ref s d idx ROOTINUM
  named : ∀ ino, (s.get ino).kind ≠ 0 → ino ≠ ROOTINUM → ∃ d idx, Ref s d idx ino

theorem WFO_mkfs (u : Bool) (sz : Nat) : WFO (mkfs u sz) := by
  refine ⟨WFN_mkfs u sz, by rw [mkfs_get]; rfl, fun d j => mkfs_noref u sz d j _, fun ino hk hne => ?_⟩
  rw [mkfs_get, if_neg hne] at hk
  exact absurd rfl hk

theorem WFO.free_ne_root {s : FS} {i : Nat} (h : WFO s) (hf : (s.get i).kind = 0) : i ≠ ROOTINUM := by
  rintro rfl
  exact nomatch hf.symm.trans h.root_dir

theorem Renames.wfo {s s' : FS} {x : Nat} {N : Nat → Nat → Prop} (hR : Renames s s' x N) (h : WFO s) (hW : WFN s')
    (hx : x ≠ ROOTINUM) (hn : (s'.get x).kind ≠ 0 → ∃ d j, N d j) : WFO s' := by
  refine ⟨hW, hR.kind _ (Ne.symm hx) ▸ h.root_dir, fun d j hr => h.root_unnamed d j ((hR.others d j _ (Ne.symm hx)).1 hr),
    fun ino hl hne => ?_⟩
  by_cases e : ino = x
  · obtain ⟨d, j, hN⟩ := hn (e ▸ hl)
    exact ⟨d, j, e ▸ (hR.own d j).2 hN⟩
  · rw [hR.kind ino e] at hl
    obtain ⟨d, j, hr⟩ := h.named ino hl hne
    exact ⟨d, j, (hR.others d j ino e).2 hr⟩

theorem unlinked_free (s : FS) (dino idx cino : Nat) : ((unlinked s dino idx cino).get cino).kind = 0 := by
  rw [unlinked_get, if_pos rfl]; rfl

theorem unlinked_WFO (s : FS) (dino idx cino : Nat) (h : WFO s) (href : Ref s dino idx cino)
    (hno : NoRefsFrom s cino) : WFO (unlinked s dino idx cino) :=
  (unlinked_renames h.wfn href hno).wfo h (unlinked_WFN s dino idx cino h.wfn (ref_dir h.wfn href) href)
    (fun he => h.root_unnamed dino idx (he ▸ href)) fun hl => absurd (unlinked_free s dino idx cino) hl

theorem Eff.wfo {s : FS} {c : Choice} {op : Op} {p : FS × Reply} (e : Eff s c op p) (h : WFO s) : WFO p.1 := by
  have hW := e.wfn h.wfn
  cases e with
  | same => exact h
  | data _ i x _ _ _ hx => exact (data_renames hx.slots hx.kind).wfo h hW (by decide) fun hl => absurd hW.zero_free hl
  | created _ _ _ _ _ dino _ _ g =>
    exact (created_renames h.wfn g.ne g.free g.two (freshInode_short ..) g.add).wfo h hW
      (h.free_ne_root g.free) fun _ => ⟨dino, c.slot, rfl, rfl⟩
  | removed _ name dino cino idx hill g =>
    exact unlinked_WFO s dino idx cino h (lookupIn_ref h.wfn g.look hill) (noRefs_of_guard s cino h.wfn g.empty)
  | renamed _ _ _ _ fd td fino fidx s1 _ g =>
    obtain ⟨hW1, hR1, _⟩ := renamed_source h.wfn g h fun tino tidx => unlinked_WFO s td tidx tino h
    exact (moved_renames hW1.wfn hR1 g.add).wfo hW1 hW (fun e => hW1.root_unnamed fd fidx (e ▸ hR1))
      fun _ => ⟨td, c.slot, rfl, rfl⟩

theorem step_WFO (s : FS) (op : Op) (c : Choice) (h : WFO s) : WFO (step s op c).1 := (step_eff s op c).wfo h

theorem run_WFO (s : FS) (ops : List (Op × Choice)) (h : WFO s) : WFO (run s ops).1 :=
  run_invariant step_WFO s ops h

end GoNfsd.Model.Fs
