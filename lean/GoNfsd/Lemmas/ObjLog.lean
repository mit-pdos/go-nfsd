import GoNfsd.Model.ObjLog

/-! M9c: what `CommitWait(true)` and `Flush()` of `obj.Log` make durable.  A waiting commit flushes up to its own
    position, which is the end of the log; `Flush()` flushes up to the remembered position, which a refused
    transaction has set to 0. -/
namespace GoNfsd.Model.ObjLog

/-- nothing is durable that was not appended; the remembered position is a position -/
def Inv (s : OL) : Prop := s.durable ≤ s.next ∧ s.pos ≤ s.next

theorem step_inv (s : OL) (e : Ev) (h : Inv s) : Inv (step s e) :=
  match e with
  | .commit true true => ⟨Nat.max_le.mpr ⟨Nat.le_succ_of_le h.1, Nat.le_refl _⟩, Nat.le_refl _⟩
  | .commit true false => ⟨Nat.le_succ_of_le h.1, Nat.le_refl _⟩
  | .commit false _ => ⟨h.1, Nat.zero_le _⟩
  | .flush => ⟨Nat.max_le.mpr h, h.2⟩
  | .bg _ => ⟨Nat.max_le.mpr ⟨h.1, Nat.min_le_right ..⟩, h.2⟩

theorem run_inv (es : List Ev) (s : OL) (h : Inv s) : Inv (run s es) :=
  List.foldlRecOn es _ h fun s hs e _ => step_inv s e hs

theorem step_durable_mono (s : OL) (e : Ev) : s.durable ≤ (step s e).durable :=
  match e with
  | .commit true true | .flush | .bg _ => Nat.le_max_left ..
  | .commit true false | .commit false _ => Nat.le_refl _

theorem step_next_mono (s : OL) (e : Ev) : s.next ≤ (step s e).next := by
  match e with
  | .commit true _ => exact Nat.le_succ _
  | .commit false _ | .flush | .bg _ => exact Nat.le_refl _

theorem run_durable_mono (es : List Ev) (s : OL) : s.durable ≤ (run s es).durable :=
  List.foldlRecOn (motive := fun s' => s.durable ≤ s'.durable) es _ (Nat.le_refl _)
    fun s' hs e _ => Nat.le_trans hs (step_durable_mono s' e)

theorem stable_commit_all_durable (s : OL) (h : Inv s) :
    (step s (.commit true true)).durable = (step s (.commit true true)).next :=
  Nat.max_eq_right (Nat.le_succ_of_le h.1)

theorem stable_commit_stays_durable (es es' : List Ev) :
    let t := step (run {} es) (.commit true true)
    t.durable = t.next ∧ t.next ≤ (run t es').durable :=
  have h1 := stable_commit_all_durable _ (run_inv es {} ⟨Nat.le_refl _, Nat.le_refl _⟩)
  ⟨h1, h1 ▸ run_durable_mono es' _⟩

theorem flush_after_commit_complete (s : OL) (w : Bool) (h : Inv s) :
    (step (step s (.commit true w)) .flush).durable = (step (step s (.commit true w)) .flush).next := by
  cases w
  · exact Nat.max_eq_right (Nat.le_succ_of_le h.1)
  · exact Nat.max_eq_right (Nat.max_le.mpr ⟨Nat.le_succ_of_le h.1, Nat.le_refl _⟩)

end GoNfsd.Model.ObjLog
