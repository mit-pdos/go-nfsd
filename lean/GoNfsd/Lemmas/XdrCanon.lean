/- Whatever the decoder produces, the encoder accepts, and the encoding is exactly as long as what
   the decoder consumed: decoded values respect every bound of their type (numbers below 2^32 /
   2^64, lengths within the declared maxima, a discriminant with its own arm), and the only
   freedom the decoder allows the sender — a boolean written as any non-zero word, padding bytes
   of any value — does not change the size.  On CANONICAL input — booleans and presence flags
   written as 0 or 1, padding bytes zero — the re-encoding is the very bytes that were consumed.
   `canon` is the syntactic test (it follows the decoder through the input); `dec_reencodes` is the
   theorem.  With `dec_enc` (what the encoder writes decodes to the same value) this pins the
   decoder's leniency down to exactly those two freedoms. -/
import GoNfsd.Lemmas.Xdr

namespace GoNfsd.Model.Xdr

def allZero (p : List UInt8) : Bool := p.all (· == 0)

/-- the padding of a counted string / opaque is zero -/
def canonBytes (bs : List UInt8) : Bool :=
  match takeN 4 bs with
  | none => true
  | some (w, r) =>
    match takeN (beNat w) r with
    | none => true
    | some (_, r') =>
      match takeN (padLen (beNat w)) r' with
      | none => true
      | some (p, _) => allZero p

/-- the chain loop: presence flags are 0 or 1, elements canonical -/
def canonChainWith (decElem : List UInt8 → Option (Val × List UInt8)) (canonElem : List UInt8 → Bool) :
    Nat → List UInt8 → Bool
  | 0, _ => true
  | fuel + 1, bs =>
    match takeN 4 bs with
    | none => true
    | some (w, rest) =>
      if beNat w = 0 then true else
      beNat w == 1 && canonElem rest &&
        match decElem rest with
        | none => true
        | some (_, rest') => canonChainWith decElem canonElem fuel rest'

mutual
def canon : Ty → List UInt8 → Bool
  | .u32, _ => true
  | .u64, _ => true
  | .arrU32 _, _ => true
  | .bool, bs => match takeN 4 bs with | none => true | some (w, _) => beNat w ≤ 1
  | .str _, bs => canonBytes bs
  | .opaqueVar _, bs => canonBytes bs
  | .opaqueFix n, bs =>
    match takeN n bs with
    | none => true
    | some (_, r) => match takeN (padLen n) r with | none => true | some (p, _) => allZero p
  | .struct fs, bs => canonFields fs bs
  | .unionU32 keys arms hasDflt dflt, bs =>
    match takeN 4 bs with
    | none => true
    | some (w, r) =>
      match canonArm keys arms (beNat w) r with
      | some b => b
      | none => if hasDflt then canon dflt r else true
  | .unionBool t f, bs =>
    match takeN 4 bs with
    | none => true
    | some (w, r) => decide (beNat w ≤ 1) && (if beNat w != 0 then canon t r else canon f r)
  | .chain elem, bs =>
    canonChainWith (fun b => (decFields elem b).map fun p => (Val.struct p.1, p.2)) (canonFields elem) bs.length bs

def canonFields : List Ty → List UInt8 → Bool
  | [], _ => true
  | t :: ts, bs =>
    canon t bs && match dec t bs with | none => true | some (_, r) => canonFields ts r

def canonArm : List Nat → List Ty → Nat → List UInt8 → Option Bool
  | k :: ks, t :: ts, d, bs => if k = d then some (canon t bs) else canonArm ks ts d bs
  | _, _, _, _ => none
end

theorem allZero_eq {p : List UInt8} {n : Nat} (h : allZero p = true) (hl : p.length = n) : p = zeros n :=
  List.eq_replicate_iff.mpr ⟨hl, fun b hb => beq_iff_eq.mp (List.all_eq_true.mp h b hb)⟩

/-- What re-encoding delivers.  The decoder consumed `a` of `bs` and left `r`; `e` is an encoding
    `c` of the same length, and the very bytes consumed when the input was canonical. -/
def Reenc (e : Option (List UInt8)) (cn : Bool) (bs r : List UInt8) : Prop :=
  ∃ a c, bs = a ++ r ∧ e = some c ∧ c.length = a.length ∧ (cn = true → c = a)

theorem Reenc.leaf {k : Nat} {w w' bs r : List UInt8} {cn : Bool}
    (hw : takeN k bs = some (w, r)) (hl : w'.length = k) (hc : cn = true → w' = w) :
    Reenc (some w') cn bs r :=
  have ⟨hb, hwl⟩ := takeN_some.mp hw
  ⟨w, w', hb, rfl, hl.trans hwl.symm, hc⟩

theorem Reenc.append {e₁ e₂ : Option (List UInt8)} {c₁ c₂ : Bool} {bs r₁ r : List UInt8}
    (h₁ : Reenc e₁ c₁ bs r₁) (h₂ : Reenc e₂ c₂ r₁ r) :
    ∃ x y, e₁ = some x ∧ e₂ = some y ∧ Reenc (some (x ++ y)) (c₁ && c₂) bs r := by
  obtain ⟨a₁, x, rfl, rfl, l₁, k₁⟩ := h₁
  obtain ⟨a₂, y, rfl, rfl, l₂, k₂⟩ := h₂
  refine ⟨x, y, rfl, rfl, a₁ ++ a₂, _, (List.append_assoc ..).symm, rfl, ?_, fun hc => ?_⟩
  · rw [List.length_append, List.length_append, l₁, l₂]
  · rw [Bool.and_eq_true] at hc
    rw [k₁ hc.1, k₂ hc.2]

theorem Reenc.word {k : Nat} {w w' bs r1 r : List UInt8} {e : Option (List UInt8)} {cw cn : Bool}
    (hw : takeN k bs = some (w, r1)) (hl : w'.length = k) (hc : cw = true → w' = w)
    (h : Reenc e cn r1 r) : Reenc ((w' ++ ·) <$> e) (cw && cn) bs r := by
  obtain ⟨_, y, ⟨⟩, rfl, hr⟩ := (Reenc.leaf hw hl hc).append h
  exact hr

theorem be_flag {w : List UInt8} (hl : w.length = 4) (h : beNat w ≤ 1) :
    be 4 (if beNat w != 0 then 1 else 0) = w := by
  have : (if beNat w != 0 then 1 else 0) = beNat w := by
    rcases Nat.le_one_iff_eq_zero_or_eq_one.mp h with h | h <;> rw [h] <;> rfl
  rw [this, be_beNat hl]

theorem decBytes_reenc {max : Option Nat} {bs : List UInt8} {v : Val} {r : List UInt8}
    (h : decBytes max bs = some (v, r)) : ∃ d, v = .bytes d ∧ lenOk max d.length = true ∧
      Reenc (some (be 4 d.length ++ d ++ zeros (padLen d.length))) (canonBytes bs) bs r := by
  obtain ⟨w, r1, h1, hok, d, r2, h2, p, h3, rfl⟩ := decBytes_some.mp h
  have l1 := (takeN_len h1).2; have l2 := (takeN_len h2).2
  unfold canonBytes
  rw [h1]; dsimp only; rw [h2]; dsimp only; rw [h3]; dsimp only
  rw [← l2] at hok h3
  obtain ⟨_, _, ⟨⟩, ⟨⟩, hr⟩ := (Reenc.word (cw := true) h1 (be_length 4 d.length) (fun _ => by rw [l2, be_beNat l1])
    (.leaf (cn := true) h2 l2 fun _ => rfl)).append
      (.leaf h3 (zeros_length _) fun hc => (allZero_eq hc (takeN_len h3).2).symm)
  exact ⟨d, rfl, hok, hr⟩

theorem decChain_reencodes {ee : Val → Option (List UInt8)} {de : List UInt8 → Option (Val × List UInt8)}
    {ce : List UInt8 → Bool} (hel : ∀ b v r, de b = some (v, r) → Reenc (ee v) (ce b) b r) :
    ∀ (fuel : Nat) {bs : List UInt8} {vs : List Val} {r : List UInt8},
      decChainWith de fuel bs = some (vs, r) →
      Reenc (encChainWith ee vs) (canonChainWith de ce fuel bs) bs r
  | 0 => fun h => by cases h
  | f + 1 => fun h => by
    obtain ⟨w, r1, hw, ⟨hz, rfl, rfl⟩ | ⟨hz, x, r2, xs, hx, hxs, rfl⟩⟩ := decChain_succ.mp h <;>
      have l1 := (takeN_len hw).2 <;> unfold canonChainWith <;> rw [hw] <;> dsimp only
    · rw [if_pos hz]
      exact .leaf hw (be_length ..) fun _ => by rw [← hz, be_beNat l1]
    · rw [if_neg hz, hx]; dsimp only
      obtain ⟨_, b, ha, hb, hr⟩ := (Reenc.word (cw := beNat w == 1) hw (be_length 4 1)
        (fun hc => by rw [← beq_iff_eq.mp hc, be_beNat l1]) (hel _ _ _ hx)).append (decChain_reencodes hel f hxs)
      obtain ⟨a, he, rfl⟩ := Option.map_eq_some_iff.mp ha
      rw [encChain_cons.mpr ⟨a, b, he, hb, rfl⟩]
      exact hr

mutual
theorem dec_reencodes : ∀ (t : Ty) (bs : List UInt8) (v : Val) (r : List UInt8),
    dec t bs = some (v, r) → Reenc (enc t v) (canon t bs) bs r
  | .u32 => fun _ _ _ h => by
    obtain ⟨w, hw, rfl⟩ := dec_u32.mp h
    have hl := (takeN_len hw).2
    unfold enc
    rw [if_pos (beNat_lt hl)]
    exact .leaf hw (be_length ..) fun _ => be_beNat hl
  | .u64 => fun _ _ _ h => by
    obtain ⟨w, hw, rfl⟩ := dec_u64.mp h
    have hl := (takeN_len hw).2
    unfold enc
    rw [if_pos (beNat_lt hl)]
    exact .leaf hw (be_length ..) fun _ => be_beNat hl
  | .bool => fun _ _ _ h => by
    obtain ⟨w, hw, rfl⟩ := dec_bool.mp h
    unfold enc canon
    rw [hw]
    exact .leaf hw (be_length ..) fun hc => be_flag (takeN_len hw).2 (of_decide_eq_true hc)
  | .str _ | .opaqueVar _ => fun _ _ _ h => by
    obtain ⟨d, rfl, hok, hr⟩ := decBytes_reenc h
    unfold enc
    rw [if_pos hok]
    exact hr
  | .opaqueFix n => fun _ _ _ h => by
    obtain ⟨d, r1, h1, p, h2, rfl⟩ := dec_opaqueFix.mp h
    have l1 := (takeN_len h1).2; have l2 := (takeN_len h2).2
    unfold enc canon
    rw [if_pos l1, h1]; dsimp only; rw [h2]; dsimp only
    obtain ⟨_, _, ⟨⟩, ⟨⟩, hr⟩ := (Reenc.leaf (cn := true) h1 l1 fun _ => rfl).append
      (.leaf h2 (zeros_length _) fun hc => (allZero_eq hc l2).symm)
    exact hr
  | .arrU32 _ => fun _ _ _ h => by
    obtain ⟨w, r1, hw, hok, ns, hn, rfl⟩ := dec_arrU32.mp h
    obtain ⟨hl, c, hc, rfl⟩ := decNums_iff.mp hn
    have l1 := (takeN_len hw).2
    unfold enc
    rw [hl, if_pos hok, hc]
    exact .word (cw := true) hw (be_length ..) (fun _ => be_beNat l1) ⟨c, c, rfl, rfl, rfl, fun _ => rfl⟩
  | .struct fs => fun _ _ _ h => by
    obtain ⟨vs, hvs, rfl⟩ := dec_struct.mp h
    exact decFields_reencodes fs _ _ _ hvs
  | .unionU32 ks arms hd d => fun _ _ _ h => by
    obtain ⟨w, r1, hw, hx⟩ := dec_unionU32.mp h
    have l1 := (takeN_len hw).2
    unfold canon
    rw [hw]; dsimp only
    obtain ⟨_, ha, x, rfl, rfl⟩ | ⟨ha, ⟨hd, x, hx, rfl⟩ | ⟨hd, rfl, rfl⟩⟩ := hx <;> unfold enc <;>
      rw [if_pos (beNat_lt l1)]
    · obtain ⟨e, cn, he, hcn, hr⟩ := (decArm_reencodes ks arms _ _).1 _ _ ha
      rw [he, hcn]
      exact .word (cw := true) hw (be_length ..) (fun _ => be_beNat l1) hr
    · obtain ⟨he, hcn⟩ := (decArm_reencodes ks arms _ _).2 ha x
      rw [he, hcn, hd]
      exact .word (cw := true) hw (be_length ..) (fun _ => be_beNat l1) (dec_reencodes d _ _ _ hx)
    · obtain ⟨he, hcn⟩ := (decArm_reencodes ks arms _ _).2 ha (.struct [])
      rw [he, hcn, if_neg hd, if_neg hd]
      exact .leaf hw (be_length ..) fun _ => be_beNat l1
  | .unionBool t f => fun _ _ _ h => by
    obtain ⟨w, r1, hw, hx⟩ := dec_unionBool.mp h
    have l1 := (takeN_len hw).2
    unfold canon
    rw [hw]; dsimp only
    obtain ⟨hb, x, hx, rfl⟩ | ⟨hb, x, hx, rfl⟩ := hx
    · rw [hb]
      exact .word hw (be_length 4 1) (fun hc => by rw [← be_flag l1 (of_decide_eq_true hc), hb])
        (dec_reencodes t _ _ _ hx)
    · replace hb := Bool.eq_false_iff.mpr hb
      rw [hb]
      exact .word hw (be_length 4 0) (fun hc => by rw [← be_flag l1 (of_decide_eq_true hc), hb])
        (dec_reencodes f _ _ _ hx)
  | .chain elem => fun _ _ _ h => by
    obtain ⟨vs, hvs, rfl⟩ := dec_chain.mp h
    refine decChain_reencodes (fun b v r hb => ?_) _ hvs
    obtain ⟨xs, hxs, rfl⟩ := dec_struct.mp hb
    exact decFields_reencodes elem _ _ _ hxs

theorem decFields_reencodes : ∀ (ts : List Ty) (bs : List UInt8) (vs : List Val) (r : List UInt8),
    decFields ts bs = some (vs, r) → Reenc (encFields ts vs) (canonFields ts bs) bs r
  | [] => fun _ _ _ h => by cases h; exact ⟨[], [], rfl, rfl, rfl, fun _ => rfl⟩
  | t :: ts => fun _ _ _ h => by
    obtain ⟨x, r1, xs, hx, hxs, rfl⟩ := decFields_cons.mp h
    obtain ⟨a, b, ha, hb, hr⟩ := (dec_reencodes t _ _ _ hx).append (decFields_reencodes ts _ _ _ hxs)
    unfold canonFields
    rw [encFields_cons.mpr ⟨a, b, ha, hb, rfl⟩, hx]
    exact hr

theorem decArm_reencodes : ∀ (ks : List Nat) (ts : List Ty) (d : Nat) (bs : List UInt8),
    (∀ v r, decArm ks ts d bs = some (some (v, r)) →
      ∃ e cn, encArm ks ts d v = some e ∧ canonArm ks ts d bs = some cn ∧ Reenc e cn bs r) ∧
    (decArm ks ts d bs = none → ∀ v, encArm ks ts d v = none ∧ canonArm ks ts d bs = none)
  | [], [] | [], _ :: _ | _ :: _, [] => fun _ _ => ⟨nofun, fun _ _ => ⟨rfl, rfl⟩⟩
  | k :: ks, t :: ts => fun d bs => by
    simp only [decArm_cons, encArm_cons]
    unfold canonArm
    split
    · exact ⟨fun v r h => ⟨_, _, rfl, rfl, dec_reencodes t bs v r (Option.some.inj h)⟩, nofun⟩
    · exact decArm_reencodes ks ts d bs
end

theorem Reenc.same_length {e : Option (List UInt8)} {cn : Bool} {bs r : List UInt8} (h : Reenc e cn bs r) :
    ∃ c, e = some c ∧ c.length + r.length = bs.length :=
  let ⟨_, c, hb, he, hl, _⟩ := h; ⟨c, he, by rw [hb, List.length_append, hl]⟩

theorem Reenc.same_bytes {e : Option (List UInt8)} {cn : Bool} {bs r : List UInt8} (h : Reenc e cn bs r)
    (hc : cn = true) : ∃ c, e = some c ∧ bs = c ++ r :=
  let ⟨_, c, hb, he, _, hk⟩ := h; ⟨c, he, by rw [hk hc, hb]⟩

theorem dec_len (t : Ty) (bs : List UInt8) (v : Val) (r : List UInt8) (h : dec t bs = some (v, r)) :
    r.length ≤ bs.length :=
  let ⟨_, _, hl⟩ := (dec_reencodes t bs v r h).same_length; hl ▸ Nat.le_add_left ..

theorem decFields_reenc : ∀ (ts : List Ty) (bs : List UInt8) (vs : List Val) (r : List UInt8),
    decFields ts bs = some (vs, r) → ∃ c, encFields ts vs = some c ∧ c.length + r.length = bs.length :=
  fun ts bs vs r h => (decFields_reencodes ts bs vs r h).same_length

theorem decFields_canon : ∀ (ts : List Ty) (bs : List UInt8) (vs : List Val) (r : List UInt8),
    decFields ts bs = some (vs, r) → canonFields ts bs = true → ∃ c, encFields ts vs = some c ∧ bs = c ++ r :=
  fun ts bs vs r h => (decFields_reencodes ts bs vs r h).same_bytes

theorem decFields_len : ∀ (ts : List Ty) (bs : List UInt8) (vs : List Val) (r : List UInt8),
    decFields ts bs = some (vs, r) → r.length ≤ bs.length :=
  fun ts bs vs r h => let ⟨_, _, hl⟩ := decFields_reenc ts bs vs r h; hl ▸ Nat.le_add_left ..

theorem decArm_canon : ∀ (ks : List Nat) (ts : List Ty) (d : Nat) (bs : List UInt8),
    (∀ v r, decArm ks ts d bs = some (some (v, r)) → (∀ b, canonArm ks ts d bs = some b → b = true) →
      ∃ c, encArm ks ts d v = some (some c) ∧ bs = c ++ r) ∧
    (decArm ks ts d bs = none → canonArm ks ts d bs = none) := by
  intro ks ts d bs
  refine ⟨fun v r h hcn => ?_, fun h => ((decArm_reencodes ks ts d bs).2 h (.struct [])).2⟩
  obtain ⟨_, cn, he, hc, hr⟩ := (decArm_reencodes ks ts d bs).1 v r h
  obtain ⟨c, rfl, hb⟩ := hr.same_bytes (hcn cn hc)
  exact ⟨c, he, hb⟩

theorem decArm_len : ∀ (ks : List Nat) (ts : List Ty) (d : Nat) (bs : List UInt8) (v : Val) (r : List UInt8),
    decArm ks ts d bs = some (some (v, r)) → r.length ≤ bs.length := by
  intro ks ts d bs v r h
  obtain ⟨_, _, _, _, hr⟩ := (decArm_reencodes ks ts d bs).1 v r h
  obtain ⟨_, _, hl⟩ := hr.same_length
  exact hl ▸ Nat.le_add_left ..

end GoNfsd.Model.Xdr
