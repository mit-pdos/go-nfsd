/- Round trip: what the encoder writes decodes to the value it was given, whatever follows (`dec_enc`).  The decoder reads
   a message from the front and never looks further than what it consumes: if `dec t bs` succeeds it succeeds in the same
   way on every extension of `bs` (`dec_ext`).  Hence no proper prefix of an accepted message is accepted. -/
import GoNfsd.Lemmas.Xdr

namespace GoNfsd.Model.Xdr

theorem take_be (k n : Nat) (b rest : List UInt8) : takeN k (be k n ++ b ++ rest) = some (be k n, b ++ rest) :=
  takeN_some.mpr ⟨List.append_assoc .., be_length ..⟩

theorem decChain_enc {ee : Val → Option (List UInt8)} {de : List UInt8 → Option (Val × List UInt8)}
    (hel : ∀ v b r, ee v = some b → de (b ++ r) = some (v, r)) (rest : List UInt8) :
    ∀ (vs : List Val) (fuel : Nat) {bs : List UInt8}, encChainWith ee vs = some bs → vs.length < fuel →
      decChainWith de fuel (bs ++ rest) = some (vs, rest)
  | _, 0 => fun _ hf => absurd hf (Nat.not_lt_zero _)
  | [], f + 1 => fun h _ => by
    cases h
    exact decChain_succ.mpr ⟨_, _, takeN_append _ _ (be_length ..), .inl ⟨beNat_be 4 0 (by decide), rfl, rfl⟩⟩
  | v :: vs, f + 1 => fun h hf => by
    obtain ⟨a, b, ha, hb, rfl⟩ := encChain_cons.mp h
    exact decChain_succ.mpr ⟨be 4 1, a ++ (b ++ rest), takeN_some.mpr ⟨by simp only [List.append_assoc], be_length ..⟩, .inr
      ⟨by rw [beNat_be 4 1 (by decide)]; decide, v, _, vs, hel v a _ ha,
        decChain_enc hel rest vs f hb (Nat.lt_of_succ_lt_succ hf), rfl⟩⟩

theorem encChain_length {ee : Val → Option (List UInt8)} : ∀ (vs : List Val) {bs : List UInt8},
    encChainWith ee vs = some bs → vs.length < bs.length
  | [] => fun h => by cases h; decide
  | v :: vs => fun h => by
    obtain ⟨a, b, _, hb, rfl⟩ := encChain_cons.mp h
    rw [List.length_cons, Nat.add_comm, List.length_append, List.length_append, be_length]
    exact Nat.add_lt_add_of_le_of_lt (Nat.le_add_right_of_le (by decide)) (encChain_length vs hb)

mutual
theorem dec_enc : ∀ (t : Ty) (v : Val) (bs rest : List UInt8),
    enc t v = some bs → dec t (bs ++ rest) = some (v, rest)
  | .u32 => fun v _ rest h => by
    cases v with
    | num n =>
      obtain ⟨hn, ⟨⟩⟩ := Option.ite_none_right_eq_some.mp h
      exact dec_u32.mpr ⟨_, takeN_append _ _ (be_length ..), by rw [beNat_be 4 n hn]⟩
    | _ => cases h
  | .u64 => fun v _ rest h => by
    cases v with
    | num n =>
      obtain ⟨hn, ⟨⟩⟩ := Option.ite_none_right_eq_some.mp h
      exact dec_u64.mpr ⟨_, takeN_append _ _ (be_length ..), by rw [beNat_be 8 n hn]⟩
    | _ => cases h
  | .bool => fun v _ rest h => by
    cases v with
    | bool b =>
      cases h
      exact dec_bool.mpr ⟨_, takeN_append _ _ (be_length ..), by rw [beNat_be 4 _ (by cases b <;> decide)]; cases b <;> rfl⟩
    | _ => cases h
  | .str _ | .opaqueVar _ => fun v _ rest h => by
    cases v with
    | bytes d =>
      obtain ⟨hok, ⟨⟩⟩ := Option.ite_none_right_eq_some.mp h
      have hb := beNat_be 4 _ (lenOk_lt hok)
      exact decBytes_some.mpr ⟨be 4 d.length, d ++ (zeros (padLen d.length) ++ rest),
        takeN_some.mpr ⟨by simp only [List.append_assoc], be_length ..⟩, by rw [hb]; exact hok, d, _,
        takeN_append _ _ hb.symm, _, takeN_append _ _ (by rw [hb, zeros_length]), rfl⟩
    | _ => cases h
  | .opaqueFix n => fun v _ rest h => by
    cases v with
    | bytes d =>
      obtain ⟨hn, ⟨⟩⟩ := Option.ite_none_right_eq_some.mp h
      exact dec_opaqueFix.mpr ⟨d, zeros (padLen n) ++ rest, takeN_some.mpr ⟨List.append_assoc .., hn⟩, _,
        takeN_append _ _ (zeros_length _), rfl⟩
    | _ => cases h
  | .arrU32 _ => fun v _ rest h => by
    cases v with
    | nums ns =>
      obtain ⟨hok, h⟩ := Option.ite_none_right_eq_some.mp h
      obtain ⟨b, hb, rfl⟩ := Option.map_eq_some_iff.mp h
      have hl := beNat_be 4 _ (lenOk_lt hok)
      exact dec_arrU32.mpr ⟨be 4 ns.length, _, take_be ..,
        by rw [hl]; exact hok, ns, by rw [hl]; exact decNums_iff.mpr ⟨rfl, b, hb, rfl⟩, rfl⟩
    | _ => cases h
  | .struct fs => fun v _ rest h => by
    cases v with
    | struct vs => exact dec_struct.mpr ⟨vs, decFields_enc fs vs _ rest h, rfl⟩
    | _ => cases h
  | .unionU32 ks arms hd d => fun v _ rest h => by
    cases v with
    | union k x =>
      obtain ⟨hk, h⟩ := Option.ite_none_right_eq_some.mp h
      have hb := beNat_be 4 k hk
      split at h
      · next e he =>
        obtain ⟨b, rfl, rfl⟩ := Option.map_eq_some_iff.mp h
        exact dec_unionU32.mpr ⟨be 4 k, _, take_be ..,
          .inl ⟨_, by rw [hb]; exact (decArm_enc ks arms k x _ he).1 b rest rfl, x, rfl, by rw [hb]⟩⟩
      · next he =>
        have hn := (decArm_enc ks arms k x _ he).2 rfl
        split at h
        · next hd =>
          obtain ⟨b, hx, rfl⟩ := Option.map_eq_some_iff.mp h
          exact dec_unionU32.mpr ⟨be 4 k, _, take_be ..,
            .inr ⟨by rw [hb]; exact hn _, .inl ⟨hd, x, dec_enc d x b rest hx, by rw [hb]⟩⟩⟩
        · next hd =>
          split at h <;> cases h
          exact dec_unionU32.mpr ⟨be 4 k, _, takeN_append _ _ (be_length ..),
            .inr ⟨by rw [hb]; exact hn _, .inr ⟨hd, by rw [hb], rfl⟩⟩⟩
    | _ => cases h
  | .unionBool t f => fun v _ rest h => by
    cases v with
    | bunion b x =>
      cases b <;> obtain ⟨a, ha, rfl⟩ := Option.map_eq_some_iff.mp h
      · exact dec_unionBool.mpr ⟨be 4 0, a ++ rest, take_be ..,
          .inr ⟨by rw [beNat_be 4 0 (by decide)]; decide, x, dec_enc f x a rest ha, rfl⟩⟩
      · exact dec_unionBool.mpr ⟨be 4 1, a ++ rest, take_be ..,
          .inl ⟨by rw [beNat_be 4 1 (by decide)]; rfl, x, dec_enc t x a rest ha, rfl⟩⟩
    | _ => cases h
  | .chain elem => fun v bs rest h => by
    cases v with
    | list vs =>
      refine dec_chain.mpr ⟨vs, decChain_enc (fun w b r hw => ?_) rest vs _ h ?_, rfl⟩
      · cases w with
        | struct xs => exact dec_struct.mpr ⟨xs, decFields_enc elem xs b r hw, rfl⟩
        | _ => cases hw
      · rw [List.length_append]
        exact Nat.lt_of_lt_of_le (encChain_length vs h) (Nat.le_add_right ..)
    | _ => cases h

theorem decFields_enc : ∀ (ts : List Ty) (vs : List Val) (bs rest : List UInt8),
    encFields ts vs = some bs → decFields ts (bs ++ rest) = some (vs, rest)
  | [], [] => fun _ _ h => by cases h; rfl
  | [], _ :: _ | _ :: _, [] => fun _ _ h => by cases h
  | t :: ts, v :: vs => fun _ rest h => by
    obtain ⟨a, b, ha, hb, rfl⟩ := encFields_cons.mp h
    exact decFields_cons.mpr ⟨v, b ++ rest, vs, by rw [List.append_assoc]; exact dec_enc t v a _ ha,
      decFields_enc ts vs b rest hb, rfl⟩

theorem decArm_enc : ∀ (ks : List Nat) (ts : List Ty) (d : Nat) (v : Val)
    (r : Option (Option (List UInt8))), encArm ks ts d v = r →
    (∀ b rest, r = some (some b) → decArm ks ts d (b ++ rest) = some (some (v, rest))) ∧
    (r = none → ∀ bs, decArm ks ts d bs = none)
  | [], [] | [], _ :: _ | _ :: _, [] => fun _ _ _ h => by cases h; exact ⟨nofun, fun _ _ => rfl⟩
  | k :: ks, t :: ts => fun d v r h => by
    rw [encArm_cons] at h
    simp only [decArm_cons]
    split at h
    · next hk =>
      cases h
      simp only [if_pos hk]
      exact ⟨fun b rest hb => congrArg some (dec_enc t v b rest (Option.some.inj hb)), nofun⟩
    · next hk =>
      simp only [if_neg hk]
      exact decArm_enc ks ts d v r h
end

theorem dec_enc_nil (t : Ty) (v : Val) (bs : List UInt8) (h : enc t v = some bs) : dec t bs = some (v, []) :=
  List.append_nil bs ▸ dec_enc t v bs [] h

theorem decChain_ext {de : List UInt8 → Option (Val × List UInt8)} (ext : List UInt8)
    (hel : ∀ b v r, de b = some (v, r) → de (b ++ ext) = some (v, r ++ ext)) :
    ∀ (fuel fuel' : Nat) {bs : List UInt8} {vs : List Val} {r : List UInt8}, fuel ≤ fuel' →
      decChainWith de fuel bs = some (vs, r) → decChainWith de fuel' (bs ++ ext) = some (vs, r ++ ext)
  | 0, _ => fun _ h => by cases h
  | f + 1, 0 => fun hf _ => absurd hf (Nat.not_succ_le_zero f)
  | f + 1, g + 1 => fun hf h => by
    obtain ⟨w, r1, hw, ⟨hz, rfl, rfl⟩ | ⟨hz, x, r2, xs, hx, hxs, rfl⟩⟩ := decChain_succ.mp h <;>
      refine decChain_succ.mpr ⟨w, _, takeN_ext ext hw, ?_⟩
    · exact .inl ⟨hz, rfl, rfl⟩
    · exact .inr ⟨hz, x, _, xs, hel _ _ _ hx, decChain_ext ext hel f g (Nat.le_of_succ_le_succ hf) hxs, rfl⟩

mutual
theorem dec_ext : ∀ (t : Ty) (bs : List UInt8) (v : Val) (r ext : List UInt8),
    dec t bs = some (v, r) → dec t (bs ++ ext) = some (v, r ++ ext)
  | .u32 => fun _ _ _ ext h => by
    obtain ⟨w, hw, rfl⟩ := dec_u32.mp h
    exact dec_u32.mpr ⟨w, takeN_ext ext hw, rfl⟩
  | .u64 => fun _ _ _ ext h => by
    obtain ⟨w, hw, rfl⟩ := dec_u64.mp h
    exact dec_u64.mpr ⟨w, takeN_ext ext hw, rfl⟩
  | .bool => fun _ _ _ ext h => by
    obtain ⟨w, hw, rfl⟩ := dec_bool.mp h
    exact dec_bool.mpr ⟨w, takeN_ext ext hw, rfl⟩
  | .str _ | .opaqueVar _ => fun _ _ _ ext h => by
    obtain ⟨w, r1, h1, hok, d, r2, h2, p, h3, rfl⟩ := decBytes_some.mp h
    exact decBytes_some.mpr ⟨w, _, takeN_ext ext h1, hok, d, _, takeN_ext ext h2, p, takeN_ext ext h3, rfl⟩
  | .opaqueFix _ => fun _ _ _ ext h => by
    obtain ⟨d, r1, h1, p, h2, rfl⟩ := dec_opaqueFix.mp h
    exact dec_opaqueFix.mpr ⟨d, _, takeN_ext ext h1, p, takeN_ext ext h2, rfl⟩
  | .arrU32 _ => fun _ _ _ ext h => by
    obtain ⟨w, r1, hw, hok, ns, hn, rfl⟩ := dec_arrU32.mp h
    obtain ⟨hl, c, hc, rfl⟩ := decNums_iff.mp hn
    exact dec_arrU32.mpr ⟨w, _, takeN_ext ext hw, hok, ns, decNums_iff.mpr ⟨hl, c, hc, List.append_assoc ..⟩, rfl⟩
  | .struct fs => fun _ _ _ ext h => by
    obtain ⟨vs, hvs, rfl⟩ := dec_struct.mp h
    exact dec_struct.mpr ⟨vs, decFields_ext fs _ _ _ ext hvs, rfl⟩
  | .unionU32 ks arms hd d => fun _ _ _ ext h => by
    obtain ⟨w, r1, hw, ⟨_, ha, x, rfl, hv⟩ | ⟨ha, ⟨hd, x, hx, hv⟩ | ⟨hd, hv, rfl⟩⟩⟩ := dec_unionU32.mp h <;>
      refine dec_unionU32.mpr ⟨w, _, takeN_ext ext hw, ?_⟩
    · exact .inl ⟨_, (decArm_ext ks arms _ _ ext).1 _ _ ha, x, rfl, hv⟩
    · exact .inr ⟨(decArm_ext ks arms _ _ ext).2 ha, .inl ⟨hd, x, dec_ext d _ _ _ ext hx, hv⟩⟩
    · exact .inr ⟨(decArm_ext ks arms _ _ ext).2 ha, .inr ⟨hd, hv, rfl⟩⟩
  | .unionBool t f => fun _ _ _ ext h => by
    obtain ⟨w, r1, hw, ⟨hb, x, hx, hv⟩ | ⟨hb, x, hx, hv⟩⟩ := dec_unionBool.mp h <;>
      refine dec_unionBool.mpr ⟨w, _, takeN_ext ext hw, ?_⟩
    · exact .inl ⟨hb, x, dec_ext t _ _ _ ext hx, hv⟩
    · exact .inr ⟨hb, x, dec_ext f _ _ _ ext hx, hv⟩
  | .chain elem => fun bs _ _ ext h => by
    obtain ⟨vs, hvs, rfl⟩ := dec_chain.mp h
    refine dec_chain.mpr ⟨vs, decChain_ext ext (fun b v r hb => ?_) _ _ (List.length_append ▸ Nat.le_add_right ..) hvs, rfl⟩
    obtain ⟨xs, hxs, rfl⟩ := dec_struct.mp hb
    exact dec_struct.mpr ⟨xs, decFields_ext elem _ _ _ ext hxs, rfl⟩

theorem decFields_ext : ∀ (ts : List Ty) (bs : List UInt8) (vs : List Val) (r ext : List UInt8),
    decFields ts bs = some (vs, r) → decFields ts (bs ++ ext) = some (vs, r ++ ext)
  | [] => fun _ _ _ _ h => by cases h; rfl
  | t :: ts => fun _ _ _ ext h => by
    obtain ⟨x, r1, xs, hx, hxs, rfl⟩ := decFields_cons.mp h
    exact decFields_cons.mpr ⟨x, _, xs, dec_ext t _ _ _ ext hx, decFields_ext ts _ _ _ ext hxs, rfl⟩

theorem decArm_ext : ∀ (ks : List Nat) (ts : List Ty) (d : Nat) (bs ext : List UInt8),
    (∀ v r, decArm ks ts d bs = some (some (v, r)) → decArm ks ts d (bs ++ ext) = some (some (v, r ++ ext))) ∧
    (decArm ks ts d bs = none → decArm ks ts d (bs ++ ext) = none)
  | [], [] | [], _ :: _ | _ :: _, [] => fun _ _ _ => ⟨nofun, fun _ => rfl⟩
  | k :: ks, t :: ts => fun d bs ext => by
    simp only [decArm_cons]
    split
    · exact ⟨fun v r h => congrArg some (dec_ext t bs v r ext (Option.some.inj h)), nofun⟩
    · exact decArm_ext ks ts d bs ext
end

/-- of ANY accepted message, whether the encoder wrote it or a sender used the decoder's freedoms -/
theorem no_proper_prefix_decodes (t : Ty) (v : Val) (bs p q : List UInt8) (h : dec t bs = some (v, []))
    (hp : bs = p ++ q) (hq : q ≠ []) : dec t p = none := by
  cases hd : dec t p with
  | none => rfl
  | some res =>
    obtain ⟨v', r⟩ := res
    rw [hp, dec_ext t p v' r q hd] at h
    exact absurd (List.append_eq_nil_iff.mp (Prod.mk.inj (Option.some.inj h)).2).2 hq

end GoNfsd.Model.Xdr
