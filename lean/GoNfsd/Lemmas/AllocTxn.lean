import GoNfsd.Model.AllocTxn

/-! M8b: the in-memory allocator holds exactly the numbers in use on disk and those allocated by an open transaction; a number
    an open transaction has allocated is still free on disk, one it has freed is still held in memory, and neither is in a
    list of another transaction (`Inv`, kept by every allowed step). -/
namespace GoNfsd.Model.AllocTxn

structure Inv (s : St) : Prop where
  mem_iff : ∀ n, s.mem n = true ↔ (s.disk n = true ∨ ∃ t, n ∈ (s.tx t).1)
  alloc_fresh : ∀ t n, n ∈ (s.tx t).1 → s.disk n = false ∧ ∀ u, n ∈ (s.tx u).1 → u = t
  free_owned : ∀ t n, n ∈ (s.tx t).2 → s.mem n = true ∧ ∀ u, u ≠ t → n ∉ (s.tx u).1 ∧ n ∉ (s.tx u).2

/-! `setTx` as the three list updates the operations make: a number more in one list of `t`, or both lists of `t` emptied -/

section
variable (tx : Nat → List Nat × List Nat) (t u n m : Nat)

theorem setTx_alloc_fst : m ∈ (setTx tx t (n :: (tx t).1, (tx t).2) u).1 ↔ m ∈ (tx u).1 ∨ (u = t ∧ m = n) := by
  unfold setTx; split <;> simp_all [or_comm]

theorem setTx_alloc_snd : (setTx tx t (n :: (tx t).1, (tx t).2) u).2 = (tx u).2 := by
  unfold setTx; split <;> simp_all

theorem setTx_free_fst : (setTx tx t ((tx t).1, n :: (tx t).2) u).1 = (tx u).1 := by
  unfold setTx; split <;> simp_all

theorem setTx_free_snd : m ∈ (setTx tx t ((tx t).1, n :: (tx t).2) u).2 ↔ m ∈ (tx u).2 ∨ (u = t ∧ m = n) := by
  unfold setTx; split <;> simp_all [or_comm]

theorem setTx_close_fst : m ∈ (setTx tx t ([], []) u).1 ↔ u ≠ t ∧ m ∈ (tx u).1 := by
  unfold setTx; split <;> simp_all

theorem setTx_close_snd : m ∈ (setTx tx t ([], []) u).2 ↔ u ≠ t ∧ m ∈ (tx u).2 := by
  unfold setTx; split <;> simp_all
end

theorem fresh_inv (disk : Nat → Bool) : Inv (fresh disk) :=
  ⟨fun n => by simp [fresh], nofun, nofun⟩

theorem step_inv (s : St) (op : AOp) (h : Inv s) (ha : Allowed s op) : Inv (step s op) := by
  obtain ⟨h1, h2, h3⟩ := h
  -- the leaves of `step`: alloc, free, commit, abort
  fun_cases step s op
  case case1 t n =>
    -- `n` was free in memory, so it is neither on disk nor in any list
    have hm : s.mem n = false := ha
    have hnd : s.disk n = false := by
      cases hd : s.disk n
      · rfl
      · rw [(h1 n).2 (Or.inl hd)] at hm; cases hm
    have hnl : ∀ u, n ∉ (s.tx u).1 := fun u hu => by rw [(h1 n).2 (Or.inr ⟨u, hu⟩)] at hm; cases hm
    have hnf : ∀ u, n ∉ (s.tx u).2 := fun u hu => by rw [(h3 u n hu).1] at hm; cases hm
    constructor <;> simp only [setTx_alloc_fst, setTx_alloc_snd]
    · intro m
      by_cases hmn : m = n
      · subst hmn; simp only [if_true, true_iff]; exact Or.inr ⟨t, Or.inr ⟨rfl, trivial⟩⟩
      · simp only [hmn, if_false, and_false, or_false, h1 m]
    · rintro u m (hu | ⟨rfl, rfl⟩)
      · exact ⟨(h2 u m hu).1, fun w hw => hw.elim ((h2 u m hu).2 w) fun hw => absurd (hw.2 ▸ hu) (hnl u)⟩
      · exact ⟨hnd, fun w hw => hw.elim (fun hw => absurd hw (hnl w)) (·.1)⟩
    · intro u m hu
      have hmn : m ≠ n := fun e => hnf u (e ▸ hu)
      obtain ⟨a1, a2⟩ := h3 u m hu
      exact ⟨by simp only [hmn, if_false, a1], fun w hw => ⟨fun hc => hc.elim (a2 w hw).1 fun hc => hmn hc.2, (a2 w hw).2⟩⟩
  case case2 t n =>
    -- `n` is unavailable and in no list of another transaction: it joins the free list of `t` alone
    have hg : s.mem n = true ∧ ∀ u, u ≠ t → n ∉ (s.tx u).1 ∧ n ∉ (s.tx u).2 := ha
    refine ⟨by simpa only [setTx_free_fst] using h1, by simpa only [setTx_free_fst] using h2, ?_⟩
    simp only [setTx_free_fst, setTx_free_snd]
    rintro u m (hu | ⟨rfl, rfl⟩)
    · obtain ⟨a1, a2⟩ := h3 u m hu
      refine ⟨a1, fun w hw => ⟨(a2 w hw).1, fun hc => hc.elim (a2 w hw).2 ?_⟩⟩
      rintro ⟨rfl, rfl⟩
      exact (hg.2 u (Ne.symm hw)).2 hu
    · exact ⟨hg.1, fun w hw => ⟨(hg.2 w hw).1, fun hc => hc.elim (hg.2 w hw).2 fun hc => hw hc.1⟩⟩
  case case3 t =>
    -- what `t` had allocated is on disk now, what it freed is free on disk and in memory; no other transaction held either
    constructor <;> simp only [setTx_close_fst, setTx_close_snd, Bool.and_eq_true, Bool.or_eq_true, Bool.not_eq_true',
      List.contains_eq_mem, decide_eq_true_eq, decide_eq_false_iff_not]
    · intro m
      constructor
      · rintro ⟨hm, hnf⟩
        rcases (h1 m).1 hm with hd | ⟨u, hu⟩
        · exact Or.inl ⟨Or.inl hd, hnf⟩
        · by_cases hut : u = t
          · exact Or.inl ⟨Or.inr (hut ▸ hu), hnf⟩
          · exact Or.inr ⟨u, hut, hu⟩
      · rintro (⟨hd | ha, hnf⟩ | ⟨u, hut, hu⟩)
        · exact ⟨(h1 m).2 (Or.inl hd), hnf⟩
        · exact ⟨(h1 m).2 (Or.inr ⟨t, ha⟩), hnf⟩
        · exact ⟨(h1 m).2 (Or.inr ⟨u, hu⟩), fun hf => ((h3 t m hf).2 u hut).1 hu⟩
    · rintro u m ⟨hut, hu⟩
      obtain ⟨a1, a2⟩ := h2 u m hu
      refine ⟨?_, fun w hw => a2 w hw.2⟩
      simp only [Bool.and_eq_false_iff, Bool.or_eq_false_iff, a1, decide_eq_false_iff_not, true_and]
      exact Or.inl fun ht => hut (a2 t ht).symm
    · rintro u m ⟨hut, hu⟩
      obtain ⟨a1, a2⟩ := h3 u m hu
      exact ⟨⟨a1, fun hf => ((h3 t m hf).2 u hut).2 hu⟩, fun w hw => ⟨fun hc => (a2 w hw).1 hc.2, fun hc => (a2 w hw).2 hc.2⟩⟩
  case case4 t =>
    -- what `t` had allocated was never on disk and in no other list: it is free again in memory
    constructor <;> simp only [setTx_close_fst, setTx_close_snd, Bool.and_eq_true, Bool.not_eq_true',
      List.contains_eq_mem, decide_eq_false_iff_not]
    · intro m
      constructor
      · rintro ⟨hm, hna⟩
        rcases (h1 m).1 hm with hd | ⟨u, hu⟩
        · exact Or.inl hd
        · exact Or.inr ⟨u, fun hut => hna (hut ▸ hu), hu⟩
      · rintro (hd | ⟨u, hut, hu⟩)
        · exact ⟨(h1 m).2 (Or.inl hd), fun ha => by rw [(h2 t m ha).1] at hd; cases hd⟩
        · exact ⟨(h1 m).2 (Or.inr ⟨u, hu⟩), fun ha => hut ((h2 t m ha).2 u hu)⟩
    · rintro u m ⟨hut, hu⟩
      exact ⟨(h2 u m hu).1, fun w hw => (h2 u m hu).2 w hw.2⟩
    · rintro u m ⟨hut, hu⟩
      obtain ⟨a1, a2⟩ := h3 u m hu
      exact ⟨⟨a1, (a2 t (Ne.symm hut)).1⟩, fun w hw => ⟨fun hc => (a2 w hw).1 hc.2, fun hc => (a2 w hw).2 hc.2⟩⟩

theorem run_inv (s : St) (ops : List AOp) (h : Inv s) (ha : AllowedAll s ops) : Inv (run s ops) := by
  induction ops generalizing s with
  | nil => exact h
  | cons op rest ih => exact ih _ (step_inv s op h ha.1) ha.2

end GoNfsd.Model.AllocTxn
