import GoNfsd.Model.Codec
import GoNfsd.Lemmas.Steps

/-! The codec M3 is built from little-endian fields: `le k` and `leNat` invert each other (`leNat_le_mod`, `le_leNat`),
    and the round trip of a directory entry is read off that field by field. -/
namespace GoNfsd.Model.Codec
open GoNfsd.Gen.Consts

@[simp] theorem le_length (k n : Nat) : (le k n).length = k := by
  induction k generalizing n with
  | zero => rfl
  | succ k ih => simp [le, ih]

/-- decoding `k` encoded bytes gives the number back up to `256 ^ k` -/
theorem leNat_le_mod (k n : Nat) : leNat (le k n) = n % 256 ^ k := by
  induction k generalizing n with
  | zero => simp [le, leNat, Nat.mod_one]
  | succ k ih => rw [Nat.pow_succ', Nat.mod_mul, ← ih]; simp [le, leNat]

theorem leNat_le (k n : Nat) (h : n < 256 ^ k) : leNat (le k n) = n := by
  rw [leNat_le_mod, Nat.mod_eq_of_lt h]

theorem leNat_lt (bs : Bytes) : leNat bs < 256 ^ bs.length := by
  induction bs with
  | nil => simp [leNat]
  | cons b bs ih =>
    simp only [leNat, List.length_cons, Nat.pow_succ]
    have := b.toNat_lt
    omega

theorem le_leNat (bs : Bytes) : le bs.length (leNat bs) = bs := by
  induction bs with
  | nil => rfl
  | cons b bs ih =>
    simp only [List.length_cons, le, leNat, Nat.add_mul_mod_self_left, Nat.mod_eq_of_lt b.toNat_lt,
      Nat.add_mul_div_left _ _ (by decide : 0 < 256), Nat.div_eq_of_lt b.toNat_lt, Nat.zero_add, ih,
      UInt8.ofNat_toNat]

theorem getLe_le (k n : Nat) (rest : Bytes) (h : n < 256 ^ k) : getLe k (le k n ++ rest) = (n, rest) := by
  rw [getLe, List.take_left' (le_length k n), List.drop_left' (le_length k n), leNat_le k n h]

theorem decodeInts_flatMap (ns : List Nat) (rest : Bytes) (h : ∀ b ∈ ns, b < 2 ^ 64) :
    decodeInts 8 ns.length (ns.flatMap (le 8) ++ rest) = ns := by
  induction ns with
  | nil => rfl
  | cons n ns ih =>
    rw [List.flatMap_cons, List.length_cons, decodeInts, List.append_assoc,
      List.take_left' (le_length 8 n), List.drop_left' (le_length 8 n), leNat_le 8 n (h n (by simp)),
      ih (fun b hb => h b (List.mem_cons_of_mem _ hb))]

theorem decode_encode_dirent (inum : Nat) (name : Bytes) (hi : inum < 2 ^ 64) (hn : name.length ≤ MAXNAMELEN) :
    decodeDirEnt (encodeDirEnt inum name) = some (inum, name) ∧
    (encodeDirEnt inum name).length = DIRENTSZ := by
  have e : encodeDirEnt inum name =
      (le 8 inum ++ le 8 name.length) ++ (name ++ List.replicate (DIRENTSZ - 16 - name.length) 0) :=
    List.append_assoc _ _ _
  have hlen : (encodeDirEnt inum name).length = DIRENTSZ := by
    simp only [e, List.length_append, le_length, List.length_replicate]
    rw [Nat.add_sub_cancel' (show name.length ≤ DIRENTSZ - 16 from hn)]
    rfl
  have hl : name.length < 256 ^ 8 := Nat.lt_of_le_of_lt hn (by decide)
  refine ⟨?_, hlen⟩
  unfold decodeDirEnt
  rw [hlen, e, List.drop_left' (i := 16) (by simp), List.append_assoc, List.take_left' (le_length 8 inum),
    List.drop_left' (le_length 8 inum), List.take_left' (le_length 8 _), leNat_le 8 _ hi, leNat_le 8 _ hl]
  dsimp only
  rw [List.take_left' rfl]
  exact if_pos (Nat.add_le_add_left hn 16)

end GoNfsd.Model.Codec
