/-
The tree clauses of C04 — "." names the directory itself, ".." names the directory that holds
its name, every object in use is reachable from the root — as the invariant `WFT` of every operation
of the reference file system M6 EXCEPT a RENAME that moves a directory to another directory
(the known finding: the real RENAME leaves ".." behind and accepts a move into the own subtree).
-/
import GoNfsd.Lemmas.Named

namespace GoNfsd.Model.Fs
open GoNfsd.Gen.Consts

/-- reachable from the root by names -/
inductive Reach (s : FS) : Nat → Prop
  | root : Reach s ROOTINUM
  | step (d idx ino : Nat) : Reach s d → Ref s d idx ino → Reach s ino

theorem reach_transfer (s s' : FS) (P : Nat → Prop)
    (hedge : ∀ d idx ino, Ref s d idx ino → P ino → P d ∧ (Reach s' d → Reach s' ino)) :
    ∀ x, Reach s x → P x → Reach s' x := by
  intro x hr
  induction hr with
  | root => intro _; exact Reach.root
  | step d idx ino _ href ih =>
    intro hp
    obtain ⟨hpd, hf⟩ := hedge d idx ino href hp
    exact hf (ih hpd)

/-- `WFO`, "." and ".." are right, and every object in use is reachable from the root: the name space is a tree -/
structure WFT (s : FS) : Prop where
  wfo : WFO s
  dot : ∀ d, (s.get d).kind = NF3DIR → ∃ sl, (s.get d).slots[0]? = some sl ∧ sl.inum = d
  dotdot : ∀ d idx ino, Ref s d idx ino → (s.get ino).kind = NF3DIR →
    ∃ sl, (s.get ino).slots[1]? = some sl ∧ sl.inum = d
  rootdd : ∃ sl, (s.get ROOTINUM).slots[1]? = some sl ∧ sl.inum = ROOTINUM
  tree : ∀ ino, (s.get ino).kind ≠ 0 → Reach s ino

theorem WFT_mkfs (u : Bool) (sz : Nat) : WFT (mkfs u sz) := by
  refine ⟨WFO_mkfs u sz, fun d hk => ?_, fun d j ino hr => absurd hr (mkfs_noref u sz d j ino),
    by rw [mkfs_get]; exact ⟨_, rfl, rfl⟩, fun ino hk => ?_⟩ <;> rw [mkfs_get] at hk <;> split at hk
  · rename_i e; rw [e, mkfs_get]; exact ⟨_, rfl, rfl⟩
  · cases hk
  · rename_i e; rw [e]; exact .root
  · exact absurd rfl hk

theorem Renames.wft {s s' : FS} {x : Nat} {N : Nat → Nat → Prop} (hR : Renames s s' x N) (h : WFT s) (hW : WFO s')
    (hx : x ≠ ROOTINUM)
    (hdot : (s'.get x).kind = NF3DIR → ∃ sl, (s'.get x).slots[0]? = some sl ∧ sl.inum = x)
    (hdd : ∀ d j, N d j → (s'.get x).kind = NF3DIR → ∃ sl, (s'.get x).slots[1]? = some sl ∧ sl.inum = d)
    (hpath : NoRefsFrom s x ∨ ∀ d j, Ref s d j x → ∃ j', N d j')
    (hnew : (s'.get x).kind ≠ 0 → ∃ d j, N d j ∧ d ≠ x ∧ (s.get d).kind ≠ 0) : WFT s' := by
  refine ⟨hW, fun d hk => ?_, fun d j ino hr hk => ?_, ?_, fun ino hl => ?_⟩
  · by_cases e : d = x
    · exact e ▸ hdot (e ▸ hk)
    · rw [hR.kind d e] at hk
      rw [hR.low d 0 e (by decide)]
      exact h.dot d hk
  · by_cases e : ino = x
    · subst e
      exact hdd d j ((hR.own d j).1 hr) hk
    · rw [hR.kind ino e] at hk
      rw [hR.low ino 1 e (by decide)]
      exact h.dotdot d j ino ((hR.others d j ino e).1 hr) hk
  · rw [hR.low _ 1 (Ne.symm hx) (by decide)]
    exact h.rootdd
  · -- what was reachable, `x` aside if no path led through it, still is: a step to `x` goes by a new name of it
    have hothers : ∀ i, Reach s i → (NoRefsFrom s x → i ≠ x) → Reach s' i := by
      refine reach_transfer s s' (fun i => NoRefsFrom s x → i ≠ x) fun d j y hr hy => ?_
      refine ⟨fun hno e => hno j y (e ▸ hr), fun hrd => ?_⟩
      by_cases e : y = x
      · rcases hpath with hno | hsame
        · exact absurd e (hy hno)
        · obtain ⟨j', hN⟩ := hsame d j (e ▸ hr)
          exact .step d j' y hrd (e ▸ (hR.own d j').2 hN)
      · exact .step d j y hrd ((hR.others d j y e).2 hr)
    by_cases e : ino = x
    · obtain ⟨d, j, hN, hdx, hdl⟩ := hnew (e ▸ hl)
      exact .step d j ino (hothers d (h.tree d hdl) fun _ => hdx) (e ▸ (hR.own d j).2 hN)
    · rw [hR.kind ino e] at hl
      exact hothers ino (h.tree ino hl) fun _ => e

theorem unlinked_WFT (s : FS) (dino idx cino : Nat) (h : WFT s) (href : Ref s dino idx cino)
    (hno : NoRefsFrom s cino) : WFT (unlinked s dino idx cino) :=
  have h0 := unlinked_free s dino idx cino
  (unlinked_renames h.wfo.wfn href hno).wft h (unlinked_WFO s dino idx cino h.wfo href hno)
    (fun he => h.wfo.root_unnamed dino idx (he ▸ href)) (fun hk => nomatch h0.symm.trans hk) (fun _ _ hN => hN.elim)
    (.inl hno) fun hl => absurd h0 hl

theorem created_WFT {s : FS} {inum dino slot kind gen : Nat} {name : Bytes} {t : Array UInt8} {d' : Inode} (h : WFT s)
    (hne : dino ≠ inum) (hfree : (s.get inum).kind = 0) (h2 : 2 ≤ inum)
    (ha : addName (s.get dino) slot inum name = some d')
    (hW : WFO ((s.set inum (freshInode kind gen inum dino t)).set dino d')) :
    WFT ((s.set inum (freshInode kind gen inum dino t)).set dino d') := by
  have hnew : ((s.set inum (freshInode kind gen inum dino t)).set dino d').get inum = freshInode kind gen inum dino t := by
    rw [get_set_ne _ _ _ _ (Ne.symm hne), get_set_same]
  refine (created_renames h.wfo.wfn hne hfree h2 (freshInode_short ..) ha).wft h hW (h.wfo.free_ne_root hfree) ?_ ?_
    (.inl (noRefs_of_not_dir s inum h.wfo.wfn (by rw [hfree]; decide)))
    fun _ => ⟨dino, slot, ⟨rfl, rfl⟩, hne, by rw [(addName_some _ _ _ _ _ ha).1.1]; decide⟩
  · rw [hnew, freshInode_kind, freshInode_slots]
    intro hd
    exact ⟨_, by rw [if_pos hd]; rfl, rfl⟩
  · rw [hnew, freshInode_kind, freshInode_slots]
    rintro d j ⟨rfl, _⟩ hd
    exact ⟨_, by rw [if_pos hd]; rfl, rfl⟩

theorem moved_WFT (s1 : FS) (slot fd fidx td fino : Nat) (tname : Bytes) (d' : Inode) (h : WFT s1)
    (href : Ref s1 fd fidx fino)
    (ha : addName ((s1.set fd (remNameAt (s1.get fd) fidx)).get td) slot fino tname = some d')
    (hW : WFO ((s1.set fd (remNameAt (s1.get fd) fidx)).set td d'))
    (hrestr : fd = td ∨ (s1.get fino).kind ≠ NF3DIR) (hftd : fino ≠ td) :
    WFT ((s1.set fd (remNameAt (s1.get fd) fidx)).set td d') := by
  have hkind := fun j => (moved_kind_gen ha j).1
  have hlow := moved_low h.wfo.wfn href.idx_ge ha
  refine (moved_renames h.wfo.wfn href ha).wft h hW (fun e => h.wfo.root_unnamed fd fidx (e ▸ href)) ?_ ?_ ?_
    fun _ => ⟨td, slot, ⟨rfl, rfl⟩, Ne.symm hftd, ?_⟩
  · rw [hkind, hlow _ _ (by decide)]
    exact h.dot fino
  · rintro d j ⟨rfl, _⟩
    rw [hkind, hlow _ _ (by decide)]
    intro hd
    rcases hrestr with he | hnd
    · exact he ▸ h.dotdot fd fidx fino href hd
    · exact absurd hd hnd
  · -- within one directory the subtree below the moved object follows the new name; what is no directory has none
    rcases hrestr with he | hnd
    · exact .inr fun d j hr => ⟨slot, (h.wfo.wfn.ur d j fd fidx fino hr href).1.trans he, rfl⟩
    · exact .inl (noRefs_of_not_dir s1 fino h.wfo.wfn hnd)
  · rw [← hkind, get_set_same, (addName_some _ _ _ _ _ ha).2.2.2.1, (addName_some _ _ _ _ _ ha).1.1]
    decide

/-- the RENAME would move a directory into another directory -/
def movesDir (s : FS) (ffh fname tfh : Bytes) : Prop :=
  ∃ fd td fino fidx, renameDirs s ffh tfh = some (fd, td) ∧
    lookupIn (s.get fd) fname = some (fino, fidx) ∧ fd ≠ td ∧ (s.get fino).kind = NF3DIR

def movesDirB (s : FS) (ffh fname tfh : Bytes) : Bool :=
  match renameDirs s ffh tfh with
  | none => false
  | some (fd, td) =>
    match lookupIn (s.get fd) fname with
    | none => false
    | some (fino, _) => decide (fd ≠ td) && decide ((s.get fino).kind = NF3DIR)

theorem movesDir_iff (s : FS) (ffh fname tfh : Bytes) :
    movesDir s ffh fname tfh ↔ movesDirB s ffh fname tfh = true := by
  unfold movesDir movesDirB
  constructor
  · intro ⟨fd, td, fino, fidx, h1, h2, h3, h4⟩
    simp [h1, h2, h3, h4]
  · intro h
    split at h
    · cases h
    · rename_i fd td h1
      split at h
      · cases h
      · rename_i fino fidx h2
        simp only [Bool.and_eq_true, decide_eq_true_eq] at h
        exact ⟨fd, td, fino, fidx, h1, h2, h.1, h.2⟩

instance (s : FS) (ffh fname tfh : Bytes) : Decidable (movesDir s ffh fname tfh) :=
  decidable_of_iff _ (movesDir_iff s ffh fname tfh).symm

def NoDirMove (s : FS) : Op → Prop
  | .rename ffh fname tfh _ => ¬ movesDir s ffh fname tfh
  | _ => True

instance (s : FS) (op : Op) : Decidable (NoDirMove s op) := by
  cases op <;> simp only [NoDirMove] <;> infer_instance

theorem Eff.wft {s : FS} {c : Choice} {op : Op} {p : FS × Reply} (e : Eff s c op p) (h : WFT s) (hn : NoDirMove s op) :
    WFT p.1 := by
  have hW := e.wfo h.wfo
  cases e with
  | same => exact h
  | data _ i x _ _ _ hx =>
    have h0 := hW.wfn.zero_free
    exact (data_renames hx.slots hx.kind).wft h hW (by decide) (fun hd => nomatch h0.symm.trans hd) (fun _ _ hN => hN.elim)
      (.inl (noRefs_of_not_dir s 0 h.wfo.wfn (by rw [h.wfo.wfn.zero_free]; decide))) fun hl => absurd h0 hl
  | created _ _ _ _ _ _ _ _ g => exact created_WFT h g.ne g.free g.two g.add hW
  | removed _ name dino cino idx hill g =>
    exact unlinked_WFT s dino idx cino h (lookupIn_ref h.wfo.wfn g.look hill) (noRefs_of_guard s cino h.wfo.wfn g.empty)
  | renamed ffh fname _ tname fd td fino fidx s1 d' g =>
    obtain ⟨hW1, hR1, hKf⟩ := renamed_source h.wfo.wfn g h fun tino tidx => unlinked_WFT s td tidx tino h
    refine moved_WFT s1 c.slot fd fidx td fino tname d' hW1 hR1 g.add hW ?_ g.ne
    by_cases he : fd = td
    · exact .inl he
    · exact .inr (hKf ▸ fun hk => hn ⟨fd, td, fino, fidx, g.dirs, g.look, he, hk⟩)

theorem step_WFT (s : FS) (op : Op) (c : Choice) (h : WFT s) (hn : NoDirMove s op) : WFT (step s op c).1 :=
  (step_eff s op c).wft h hn

def NoDirMoves : FS → List (Op × Choice) → Prop
  | _, [] => True
  | s, (op, c) :: rest => NoDirMove s op ∧ NoDirMoves (step s op c).1 rest

instance decNoDirMoves : (s : FS) → (ops : List (Op × Choice)) → Decidable (NoDirMoves s ops)
  | _, [] => isTrue trivial
  | s, (op, c) :: rest =>
    have := decNoDirMoves (step s op c).1 rest
    inferInstanceAs (Decidable (NoDirMove s op ∧ NoDirMoves (step s op c).1 rest))

theorem run_WFT (s : FS) (ops : List (Op × Choice)) (h : WFT s) (hn : NoDirMoves s ops) :
    WFT (run s ops).1 := by
  induction ops generalizing s with
  | nil => exact h
  | cons x rest ih => exact ih _ (step_WFT s x.1 x.2 h hn.1) hn.2

end GoNfsd.Model.Fs
