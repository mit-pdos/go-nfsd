/-
The functions of the block-map model M7 (Model/BlockMap.lean) in closed form, at the canonical forms of a
file block that `range_cases` gives, and what they leave alone: the lemmas that need no invariant.
-/
import GoNfsd.Model.BlockMap
import GoNfsd.Lemmas.Steps
open GoNfsd.Model.BlockMap GoNfsd.Gen.Consts

namespace GoNfsd.Model.BlockMap

theorem set_same (blks : List Nat) (k : Nat) : blks.set k (blks.getD k 0) = blks := by
  by_cases hk : k < blks.length
  · rw [List.getD_eq_getElem?_getD, List.getElem?_eq_getElem hk, Option.getD_some, List.set_getElem_self]
  · exact List.set_eq_of_length_le (Nat.le_of_not_lt hk)

/-- a file block is direct, `i`; single indirect, cell `i` of the root; or double indirect, block `o` of that range -/
theorem range_cases {motive : Nat → Prop} (dir : ∀ i, i < NDIRECT → motive i)
    (ind : ∀ i, i < NBLKBLK → motive (NDIRECT + i)) (dind : ∀ o, motive (NDIRECT + (NBLKBLK + o)))
    (bn : Nat) : motive bn := by
  by_cases h1 : bn < NDIRECT
  · exact dir bn h1
  · rw [← Nat.add_sub_of_le (Nat.le_of_not_lt h1)]
    by_cases h2 : bn - NDIRECT < NBLKBLK
    · exact ind _ h2
    · rw [← Nat.add_sub_of_le (Nat.le_of_not_lt h2)]; exact dind _

/-- … and block `o` of the double-indirect range is cell `i` of middle block `j` -/
theorem exists_cell {o : Nat} (h : NDIRECT + (NBLKBLK + o) < NDIRECT + NBLKBLK + NBLKBLK * NBLKBLK) :
    ∃ j i, j < NBLKBLK ∧ i < NBLKBLK ∧ o = NBLKBLK * j + i := by
  rw [Nat.add_assoc] at h
  exact ⟨o / NBLKBLK, o % NBLKBLK, Nat.div_lt_of_lt_mul (Nat.lt_of_add_lt_add_left (Nat.lt_of_add_lt_add_left h)),
    Nat.mod_lt _ (by decide), (Nat.div_add_mod o NBLKBLK).symm⟩

theorem cell_div_mod {i : Nat} (hi : i < NBLKBLK) (j : Nat) :
    (NBLKBLK * j + i) / NBLKBLK = j ∧ (NBLKBLK * j + i) % NBLKBLK = i := by
  rw [Nat.mul_add_div (by decide), Nat.mul_add_mod, Nat.div_eq_of_lt hi, Nat.mod_eq_of_lt hi]
  exact ⟨rfl, rfl⟩

theorem alloc_eq (s : S) : s.alloc = (s.allocs.headD 0, { s with allocs := s.allocs.tail }) := by
  obtain ⟨st, al, fr⟩ := s
  cases al <;> rfl

theorem alloc_st (s : S) : s.alloc.2.st = s.st := by rw [alloc_eq]

theorem alloc_freed (s : S) : s.alloc.2.freed = s.freed := by rw [alloc_eq]

theorem alloc_allocs (s : S) : s.alloc.2.allocs = s.allocs.tail := by rw [alloc_eq]

theorem alloc_cons (s : S) : s.alloc.1 ≠ 0 → s.allocs = s.alloc.1 :: s.alloc.2.allocs := by
  fun_cases S.alloc s
  case case1 => exact fun h => absurd rfl h
  case case2 h => exact fun _ => h

theorem alloc_sub (s : S) : ∀ x ∈ s.alloc.2.allocs, x ∈ s.allocs :=
  fun _ hx => List.mem_of_mem_tail (alloc_allocs s ▸ hx)

theorem alloc_mem (s : S) (h : s.alloc.1 ≠ 0) : s.alloc.1 ∈ s.allocs := by
  rw [alloc_cons s h]; exact List.mem_cons_self

theorem free_st (s : S) (b : Nat) : (s.free b).st = if b = 0 then s.st else s.st.zero b := by
  unfold S.free; split <;> rfl

theorem free_allocs (s : S) (b : Nat) : (s.free b).allocs = s.allocs := by
  unfold S.free; split <;> rfl

theorem mem_free_freed {s : S} {b x : Nat} : x ∈ (s.free b).freed ↔ x ∈ s.freed ∨ (x ≠ 0 ∧ x = b) := by
  fun_cases S.free s b
  case case1 hb => rw [hb]; exact ⟨Or.inl, fun h => h.elim id fun h => absurd h.2 h.1⟩
  case case2 hb => exact List.mem_cons.trans (or_comm.trans (or_congr_right ⟨fun e => ⟨e ▸ hb, e⟩, And.right⟩))

theorem put_same (st : Store) (b i v : Nat) : (st.put b i v) b i = v := by simp [Store.put]

theorem put_touch {st : Store} {r i v y x : Nat} (h : (st.put r i v) y x ≠ st y x) : y = r :=
  Classical.byContradiction fun hy => h (if_neg fun e => hy e.1)

theorem free_touch {s : S} {b y x : Nat} : (s.free b).st y x ≠ s.st y x → b ≠ 0 ∧ y = b := by
  fun_cases S.free s b
  case case1 => exact fun h => absurd rfl h
  case case2 hb => exact fun h => ⟨hb, Classical.byContradiction fun hy => h (if_neg hy)⟩

theorem zero_noop (st : Store) (b : Nat) (h : ∀ x, st b x = 0) : st.zero b = st := by
  funext y x
  simp only [Store.zero]
  split
  · rename_i he; rw [he, h x]
  · rfl

theorem indbmap0 (s : S) (root off : Nat) :
    indbmap s root 0 off =
      (if root = 0 then (s.alloc.2, s.alloc.1, s.alloc.1) else (s, root, root)) := by
  unfold indbmap
  by_cases hr : root = 0 <;> by_cases hb : s.alloc.1 = 0 <;> simp [hr, hb]

theorem indbmap_zero_root (s : S) (l off : Nat) :
    indbmap s 0 l off =
      if s.alloc.1 = 0 then (s.alloc.2, 0, 0) else indbmap s.alloc.2 s.alloc.1 l off := by
  conv => lhs; unfold indbmap
  by_cases hb : s.alloc.1 = 0
  · simp [hb]
  · conv => rhs; unfold indbmap
    simp [hb]

theorem indbmap_succ (s : S) (root l off : Nat) (hr : root ≠ 0) :
    indbmap s root (l + 1) off =
      let r := indbmap s (s.st root (off / pow l)) l (off % pow l)
      (if r.2.2 ≠ s.st root (off / pow l) then { r.1 with st := r.1.st.put root (off / pow l) r.2.2 } else r.1,
       r.2.1, root) := by
  conv => lhs; unfold indbmap
  simp only [hr, if_false]

/-- make cell `i` of index block `r` point to a block: the one it has, or a new one -/
def leafStep (s : S) (r i : Nat) : S × Nat :=
  if s.st r i ≠ 0 then (s, s.st r i)
  else if s.alloc.1 = 0 then (s.alloc.2, 0)
  else ({ s.alloc.2 with st := s.alloc.2.st.put r i s.alloc.1 }, s.alloc.1)

theorem indbmap_one (s : S) (r off : Nat) (hr : r ≠ 0) :
    indbmap s r 1 off = ((leafStep s r off).1, (leafStep s r off).2, r) := by
  rw [indbmap_succ s r 0 off hr]
  simp only [pow, Nat.div_one, Nat.mod_one, indbmap0, leafStep]
  by_cases hn : s.st r off = 0 <;> by_cases hb : s.alloc.1 = 0 <;> simp [hn, hb]

theorem put_comm (st : Store) (a i b d j c : Nat) (h : a ≠ d) :
    (st.put d j c).put a i b = (st.put a i b).put d j c := by
  funext x y
  simp only [Store.put]
  by_cases h1 : x = a ∧ y = i
  · obtain ⟨rfl, rfl⟩ := h1
    simp [h]
  · simp [h1]

theorem leafStep_put_comm (s : S) (a i d j : Nat) (h : a ≠ d) :
    leafStep { s with st := s.st.put d j a } a i =
      let r := leafStep s a i
      ({ r.1 with st := r.1.st.put d j a }, r.2) := by
  unfold leafStep
  have hcell : (s.st.put d j a) a i = s.st a i := by simp [Store.put, h]
  have hal : ({ s with st := s.st.put d j a } : S).alloc = (s.alloc.1, { s.alloc.2 with st := s.st.put d j a }) := by
    rw [alloc_eq, alloc_eq]
  simp only [hcell, hal]
  by_cases hn : s.st a i = 0
  · by_cases hb : s.alloc.1 = 0
    · simp [hn, hb, alloc_st]
    · simp [hn, hb, alloc_st, put_comm _ _ _ _ _ _ _ h]
  · simp [hn]

/-- below a double-indirect root that is there: the step for cell `off / NBLKBLK` of the root, then the step in the
    middle block it yields.  (The code fills a new middle block before it links it; that is the same, as the new block
    is not the root.) -/
theorem indbmap_two (s : S) (d off : Nat) (hd : d ≠ 0) (had : s.alloc.1 ≠ d) :
    indbmap s d 2 off =
      let m := leafStep s d (off / NBLKBLK)
      if m.2 = 0 then (m.1, 0, d)
      else
        let r := leafStep m.1 m.2 (off % NBLKBLK)
        (r.1, r.2, d) := by
  rw [indbmap_succ s d 1 off hd]
  simp only [pow]
  fun_cases leafStep s d (off / NBLKBLK)
  case case1 hn => simp [hn, indbmap_one _ _ _ hn]
  case case2 hn hb => simp [Classical.not_not.1 hn, indbmap_zero_root, hb]
  case case3 hn hb =>
    simp [Classical.not_not.1 hn, indbmap_zero_root, hb, indbmap_one _ _ _ hb, leafStep_put_comm _ _ _ _ _ had]

theorem leafStep_hit (s : S) (r i : Nat) : (leafStep s r i).2 ≠ 0 → (leafStep s r i).1.st r i = (leafStep s r i).2 := by
  fun_cases leafStep s r i
  case case1 => exact fun _ => rfl
  case case2 => exact fun h => absurd rfl h
  case case3 => exact fun _ => put_same ..

theorem bmap_eq_dir (s : S) (blks : List Nat) {bn : Nat} (h : bn < NDIRECT) :
    bmap s blks bn =
      if blks.getD bn 0 = 0 then (s.alloc.2, blks.set bn s.alloc.1, s.alloc.1, decide (s.alloc.1 ≠ 0))
      else (s, blks, blks.getD bn 0, false) := by
  simp only [bmap, h, if_true]

theorem bmap_eq_ind (s : S) (blks : List Nat) {i : Nat} (hi : i < NBLKBLK) :
    bmap s blks (NDIRECT + i) =
      let r := indbmap s (blks.getD INDIRECT 0) 1 i
      (r.1, if r.2.2 ≠ blks.getD INDIRECT 0 then blks.set INDIRECT r.2.2 else blks, r.2.1,
       decide (r.2.2 ≠ blks.getD INDIRECT 0)) := by
  have h1 : ¬ NDIRECT + i < NDIRECT := Nat.not_lt.2 (Nat.le_add_right _ _)
  simp only [bmap, h1, Nat.add_sub_cancel_left, hi, if_true, if_false, decide_eq_true_eq]

/-- (the flag compares with the INDIRECT pointer, as in the code) -/
theorem bmap_eq_dind (s : S) (blks : List Nat) (o : Nat) :
    bmap s blks (NDIRECT + (NBLKBLK + o)) =
      let r := indbmap s (blks.getD DINDIRECT 0) 2 o
      (r.1, if r.2.2 ≠ blks.getD INDIRECT 0 then blks.set DINDIRECT r.2.2 else blks, r.2.1,
       decide (r.2.2 ≠ blks.getD INDIRECT 0)) := by
  have h1 : ¬ NDIRECT + (NBLKBLK + o) < NDIRECT := Nat.not_lt.2 (Nat.le_add_right _ _)
  have h2 : ¬ NBLKBLK + o < NBLKBLK := Nat.not_lt.2 (Nat.le_add_right _ _)
  simp only [bmap, h1, h2, Nat.add_sub_cancel_left, if_false, decide_eq_true_eq]

/-- the read-only block map: the disk block serving file block `bn`, 0 for a hole -/
def lookup (st : Store) (blks : List Nat) (bn : Nat) : Nat :=
  if bn < NDIRECT then blks.getD bn 0
  else if bn - NDIRECT < NBLKBLK then
    (if blks.getD INDIRECT 0 = 0 then 0 else st (blks.getD INDIRECT 0) (bn - NDIRECT))
  else
    let o := bn - NDIRECT - NBLKBLK
    if blks.getD DINDIRECT 0 = 0 then 0
    else if st (blks.getD DINDIRECT 0) (o / NBLKBLK) = 0 then 0
    else st (st (blks.getD DINDIRECT 0) (o / NBLKBLK)) (o % NBLKBLK)

theorem bmap_maps (s : S) (blks : List Nat) (bn : Nat) (hl : blks.length = NDIRECT + 2)
    (hbn : bn < NDIRECT + NBLKBLK) :
    let r := bmap s blks bn
    r.2.2.1 ≠ 0 → lookup r.1.st r.2.1 bn = r.2.2.1 := by
  intro r hne
  simp only [r] at hne ⊢
  unfold lookup
  induction bn using range_cases with
  | dir i hi =>
    rw [bmap_eq_dir s blks hi] at hne ⊢
    rw [if_pos hi]
    by_cases h0 : blks.getD i 0 = 0
    · rw [if_pos h0]
      exact (Steps.getD_set _ _ _ _ _ (hl ▸ Nat.lt_add_right 2 hi)).trans (if_pos rfl)
    · rw [if_neg h0]
  | ind i hi =>
    have h8 : INDIRECT < blks.length := by rw [hl]; decide
    rw [bmap_eq_ind s blks hi] at hne ⊢
    rw [if_neg (Nat.not_lt.2 (Nat.le_add_right _ _)), Nat.add_sub_cancel_left, if_pos hi]
    by_cases hr : blks.getD INDIRECT 0 = 0
    · rw [hr, indbmap_zero_root] at hne ⊢
      by_cases hb : s.alloc.1 = 0
      · rw [if_pos hb] at hne; exact absurd rfl hne
      · rw [if_neg hb, indbmap_one _ _ _ hb] at hne ⊢
        simp only [if_pos hb]
        rw [Steps.getD_set _ _ _ _ _ h8, if_pos rfl, if_neg hb]
        exact leafStep_hit _ _ _ hne
    · rw [indbmap_one _ _ _ hr] at hne ⊢
      simp only [ne_eq, not_true_eq_false, if_false, hr]
      exact leafStep_hit _ _ _ hne
  | dind o => rw [← Nat.add_assoc] at hbn; exact absurd hbn (Nat.not_lt.2 (Nat.le_add_right _ _))

/-- a mapping takes its blocks off the front of the allocator's stream: at most one per level, and one for a missing root -/
theorem indbmap_frame (l : Nat) : ∀ (s : S) (root off : Nat),
    let s' := (indbmap s root l off).1
    s'.freed = s.freed ∧ ∃ k, k ≤ l + 1 ∧ (root ≠ 0 → k ≤ l) ∧ s'.allocs = s.allocs.drop k := by
  have hz : ∀ l, (∀ (s : S) (root off : Nat), root ≠ 0 →
      let s' := (indbmap s root l off).1
      s'.freed = s.freed ∧ ∃ k, k ≤ l ∧ s'.allocs = s.allocs.drop k) → ∀ (s : S) (root off : Nat),
      let s' := (indbmap s root l off).1
      s'.freed = s.freed ∧ ∃ k, k ≤ l + 1 ∧ (root ≠ 0 → k ≤ l) ∧ s'.allocs = s.allocs.drop k := by
    intro l hnz s root off
    by_cases hr : root = 0
    · rw [hr, indbmap_zero_root]
      by_cases hb : s.alloc.1 = 0
      · rw [if_pos hb]
        exact ⟨alloc_freed s, 1, Nat.succ_le_succ (Nat.zero_le _), fun h => absurd rfl h, by rw [alloc_allocs, List.drop_one]⟩
      · rw [if_neg hb]
        obtain ⟨h1, k, hk, h2⟩ := hnz s.alloc.2 s.alloc.1 off hb
        exact ⟨h1.trans (alloc_freed s), k + 1, Nat.succ_le_succ hk, fun h => absurd rfl h,
          by rw [h2, alloc_allocs, ← List.drop_one, List.drop_drop, Nat.add_comm]⟩
    · obtain ⟨h1, k, hk, h2⟩ := hnz s root off hr
      exact ⟨h1, k, Nat.le_succ_of_le hk, fun _ => hk, h2⟩
  induction l with
  | zero =>
    refine hz 0 fun s root off hr => ?_
    rw [indbmap0, if_neg hr]
    exact ⟨rfl, 0, Nat.le_refl _, rfl⟩
  | succ l ih =>
    refine hz (l + 1) fun s root off hr => ?_
    rw [indbmap_succ s root l off hr]
    obtain ⟨h1, k, hk, _, h2⟩ := ih s (s.st root (off / pow l)) (off % pow l)
    exact ⟨iteInduction (motive := fun x : S => x.freed = _) (fun _ => h1) fun _ => h1, k, hk,
      iteInduction (motive := fun x : S => x.allocs = _) (fun _ => h2) fun _ => h2⟩

theorem bmap_frame (s : S) (blks : List Nat) (bn : Nat) :
    (bmap s blks bn).1.freed = s.freed ∧ ∃ k, k ≤ 3 ∧ (bmap s blks bn).1.allocs = s.allocs.drop k := by
  -- the leaves of `bmap`: a direct pointer that is missing (1) or there (2), the two indirect ranges (3, 4)
  fun_cases bmap s blks bn
  case case1 s' h =>
    have e : s' = s.alloc.2 := congrArg Prod.snd h.symm
    exact ⟨e ▸ alloc_freed s, 1, by decide, by rw [e, alloc_allocs, List.drop_one]⟩
  case case2 => exact ⟨rfl, 0, Nat.zero_le _, rfl⟩
  case case3 h _ =>
    obtain ⟨hf, k, hk, _, ha⟩ := indbmap_frame 1 s _ _
    rw [h] at hf ha
    exact ⟨hf, k, Nat.le_succ_of_le hk, ha⟩
  case case4 h _ =>
    obtain ⟨hf, k, hk, _, ha⟩ := indbmap_frame 2 s _ _
    rw [h] at hf ha
    exact ⟨hf, k, hk, ha⟩

/-- three: a data block and at most two index blocks -/
theorem bmap_allocs_at_most_three (s : S) (blks : List Nat) (bn : Nat) :
    (bmap s blks bn).1.allocs.length ≤ s.allocs.length ∧
    s.allocs.length ≤ (bmap s blks bn).1.allocs.length + 3 := by
  obtain ⟨_, k, hk, h⟩ := bmap_frame s blks bn
  rw [h, List.length_drop]
  exact ⟨Nat.sub_le _ _, Nat.le_trans (Nat.le_add_of_sub_le (Nat.le_refl _)) (Nat.add_le_add_left hk _)⟩

theorem roundUp_le_iff {sz k : Nat} : roundUp sz ≤ k ↔ sz ≤ k * BlockSize := by
  rw [roundUp, Nat.div_le_iff_le_mul_add_pred (by decide), Nat.add_sub_assoc (by decide), Nat.add_le_add_iff_right,
    Nat.mul_comm]

theorem roundUp_mono {a b : Nat} (h : a ≤ b) : roundUp a ≤ roundUp b :=
  roundUp_le_iff.2 (Nat.le_trans h (roundUp_le_iff.1 (Nat.le_refl _)))

theorem lt_roundUp {bn sz : Nat} (h : bn * BlockSize < sz) : bn < roundUp sz :=
  Nat.lt_of_not_le fun h' => Nat.lt_irrefl _ (Nat.lt_of_lt_of_le h (roundUp_le_iff.1 h'))

theorem roundUp_mul (k : Nat) : roundUp (k * BlockSize) = k := by
  rw [roundUp, Nat.add_sub_assoc (by decide), Nat.mul_comm, Nat.mul_add_div (by decide), Nat.div_eq_of_lt (by decide)]
  rfl

theorem roundUp_grow (sz k : Nat) :
    roundUp (if k * BlockSize > sz then k * BlockSize else sz) = max (roundUp sz) k := by
  by_cases h : k * BlockSize > sz
  · rw [if_pos h, roundUp_mul, Nat.max_eq_right (roundUp_le_iff.2 (Nat.le_of_lt h))]
  · rw [if_neg h, Nat.max_eq_left]
    exact roundUp_mul k ▸ roundUp_mono (Nat.le_of_not_gt h)

/-- `ShrinkSize` is raised above the block that failed exactly when the write is short and not empty -/
theorem writeBlocks_fields (bn n : Nat) (s : S) (ino : Ino) (cnt : Nat) :
    let w := writeBlocks s ino bn n cnt
    w.2.1.size = ino.size ∧ cnt ≤ w.2.2 ∧ w.2.2 ≤ cnt + n ∧
    w.2.1.shrink = if w.2.2 < cnt + n ∧ w.2.2 > 0 ∧ bn + w.2.2 + 1 > ino.shrink then bn + w.2.2 + 1 else ino.shrink := by
  fun_induction writeBlocks s ino bn n cnt with
  | case1 s ino cnt => exact ⟨rfl, Nat.le_refl _, Nat.le_refl _, (if_neg (fun h => Nat.lt_irrefl _ h.1)).symm⟩
  | case2 s ino n cnt s' blks' _ _ =>
    exact ⟨rfl, Nat.le_refl _, Nat.le_add_right _ _,
      by simp only [Nat.lt_add_of_pos_right (Nat.succ_pos n), true_and]⟩
  | case3 s ino n cnt s' blks' blkno _ _ _ ih =>
    rw [Nat.add_right_comm, Nat.add_assoc] at ih
    exact ⟨ih.1, Nat.le_of_succ_le ih.2.1, ih.2.2⟩

theorem writeBlocks_allocs (bn n : Nat) (s : S) (ino : Ino) (cnt : Nat) :
    (writeBlocks s ino bn n cnt).1.allocs.length ≤ s.allocs.length ∧
    s.allocs.length ≤ (writeBlocks s ino bn n cnt).1.allocs.length + 3 * n := by
  fun_induction writeBlocks s ino bn n cnt with
  | case1 s ino cnt => exact ⟨Nat.le_refl _, Nat.le_refl _⟩
  | case2 s ino n cnt s' blks' _ h =>
    have := bmap_allocs_at_most_three s ino.blks (bn + cnt)
    rw [h] at this
    exact ⟨this.1, Nat.le_trans this.2 (Nat.add_le_add_left (Nat.le_mul_of_pos_right 3 (Nat.succ_pos n)) _)⟩
  | case3 s ino n cnt s' blks' blkno _ h _ ih =>
    have := bmap_allocs_at_most_three s ino.blks (bn + cnt)
    rw [h] at this
    exact ⟨Nat.le_trans ih.1 this.1, Nat.le_trans this.2 (Nat.mul_succ 3 n ▸ Nat.add_le_add_right ih.2 3)⟩

theorem indshrink_zero (s : S) (root bn : Nat) : indshrink s root 0 bn = (s, root) := by
  unfold indshrink
  by_cases h : root = 0
  · rw [if_pos h, h]
  · rw [if_neg h]

theorem indshrink_zero_root (s : S) (l bn : Nat) : indshrink s 0 l bn = (s, 0) := by
  unfold indshrink; rfl

/-- below a root that is there: what the call one level down hands up is cleared from its cell and freed (a missing
    block hands up nothing); the root is handed up in the round at its first cell -/
theorem indshrink_succ (s : S) (root l bn : Nat) (hr : root ≠ 0) :
    indshrink s root (l + 1) bn =
      let r := indshrink s (s.st root (bn / pow l)) l (bn % pow l)
      (if r.2 ≠ 0 then ({ r.1 with st := r.1.st.put root (bn / pow l) 0 } : S).free r.2 else r.1,
       if bn = 0 then root else 0) := by
  have hb : (bn / pow l = 0 ∧ bn % pow l = 0) ↔ bn = 0 :=
    ⟨fun ⟨h1, h2⟩ => by rw [← Nat.div_add_mod bn (pow l), h1, h2]; rfl, fun h => by rw [h]; exact ⟨Nat.zero_div _, Nat.zero_mod _⟩⟩
  conv => lhs; unfold indshrink
  simp only [hr, if_false, hb]
  by_cases hn : s.st root (bn / pow l) = 0
  · simp [hn, indshrink_zero_root]
  · simp [hn]

theorem indshrink_one (s : S) (r off : Nat) (hr : r ≠ 0) :
    indshrink s r 1 off =
      (if s.st r off ≠ 0 then ({ s with st := s.st.put r off 0 } : S).free (s.st r off) else s,
       if off = 0 then r else 0) := by
  rw [indshrink_succ s r 0 off hr]
  simp only [pow, Nat.div_one, indshrink_zero]

theorem indshrink_ret (s : S) (root l bn : Nat) :
    (indshrink s root (l + 1) bn).2 = if bn = 0 then root else 0 := by
  by_cases hr : root = 0
  · rw [hr, indshrink_zero_root]; exact (ite_self _).symm
  · rw [indshrink_succ s root l bn hr]

theorem shrinkStep_eq_dir (s : S) (blks : List Nat) {idx : Nat} (h : idx < NDIRECT) :
    shrinkStep s blks idx = (s.free (blks.getD idx 0), blks.set idx 0) := by
  unfold shrinkStep
  exact if_pos h

theorem shrinkStep_eq_ind (s : S) (blks : List Nat) {i : Nat} (hi : i < NBLKBLK) :
    shrinkStep s blks (NDIRECT + i) =
      let r := indshrink s (blks.getD INDIRECT 0) 1 i
      if r.2 ≠ 0 then (r.1.free (blks.getD INDIRECT 0), blks.set INDIRECT 0) else (r.1, blks) := by
  have h1 : ¬ NDIRECT + i < NDIRECT := Nat.not_lt.2 (Nat.le_add_right _ _)
  simp only [shrinkStep, h1, Nat.add_sub_cancel_left, hi, if_true, if_false]

theorem shrinkStep_eq_dind (s : S) (blks : List Nat) (o : Nat) :
    shrinkStep s blks (NDIRECT + (NBLKBLK + o)) =
      let r := indshrink s (blks.getD DINDIRECT 0) 2 o
      if r.2 ≠ 0 then (r.1.free (blks.getD DINDIRECT 0), blks.set DINDIRECT 0) else (r.1, blks) := by
  have h1 : ¬ NDIRECT + (NBLKBLK + o) < NDIRECT := Nat.not_lt.2 (Nat.le_add_right _ _)
  have h2 : ¬ NBLKBLK + o < NBLKBLK := Nat.not_lt.2 (Nat.le_add_right _ _)
  simp only [shrinkStep, h1, h2, Nat.add_sub_cancel_left, if_false]

theorem shrinkTo_lt (s : S) (blks : List Nat) {T n : Nat} (h : T < n + 1) :
    shrinkTo s blks T (n + 1) = shrinkTo (shrinkStep s blks n).1 (shrinkStep s blks n).2 T n := by
  rw [shrinkTo]; exact if_pos h

theorem shrinkTo_ge (s : S) (blks : List Nat) {T N : Nat} (h : N ≤ T) : shrinkTo s blks T N = (s, blks) := by
  cases N with
  | zero => rfl
  | succ n => rw [shrinkTo]; exact if_neg (Nat.not_lt.2 h)

theorem shrinkToB_eq (target budget shrink : Nat) (s : S) (blks : List Nat) (h : target ≤ shrink) :
    shrinkToB s blks target budget shrink =
      ((shrinkTo s blks (max target (shrink - budget)) shrink).1,
       (shrinkTo s blks (max target (shrink - budget)) shrink).2, max target (shrink - budget)) := by
  fun_induction shrinkToB s blks target budget shrink with
  | case1 s blks shrink => rw [Nat.sub_zero, Nat.max_eq_right h, shrinkTo_ge s blks (Nat.le_refl _)]
  | case2 b s blks _ => rw [Nat.le_zero.1 h, Nat.zero_sub, Nat.max_self]; rfl
  | case3 s blks b n ht s' blks' hs ih =>
    rw [Nat.succ_sub_succ, shrinkTo_lt s blks (Nat.max_lt.2 ⟨ht, Nat.lt_succ_of_le (Nat.sub_le _ _)⟩), hs]
    exact ih (Nat.le_of_lt_succ ht)
  | case4 s blks b n ht =>
    obtain rfl := Nat.le_antisymm h (Nat.le_of_not_lt ht)
    rw [Nat.succ_sub_succ, Nat.max_eq_left (Nat.le_trans (Nat.sub_le _ _) (Nat.le_succ _)),
      shrinkTo_ge s blks (Nat.le_refl _)]

theorem shrinkToB_reached (target : Nat) : ∀ (budget shrink : Nat) (s : S) (blks : List Nat),
    target ≤ shrink → target ≤ (shrinkToB s blks target budget shrink).2.2 ∧
      (shrinkToB s blks target budget shrink).2.2 ≤ shrink := by
  intro budget shrink s blks h
  rw [shrinkToB_eq target budget shrink s blks h]
  exact ⟨Nat.le_max_left _ _, Nat.max_le.2 ⟨h, Nat.sub_le _ _⟩⟩

/-- the round of `Shrink` in which slot `k` of the inode is cleared: a direct pointer at its own index,
    the indirect root at 8, the double-indirect root at 520 — the FIRST index each of them serves -/
def slotStart (k : Nat) : Nat := if k = DINDIRECT then NDIRECT + NBLKBLK else k

theorem shrinkStep_slot (s : S) (blks : List Nat) (n : Nat) {k : Nat} (hk : k < NDIRECT + 2) :
    (shrinkStep s blks n).2.getD k 0 = if n = slotStart k then 0 else blks.getD k 0 := by
  -- clearing a slot reads as 0 there, in range or not
  have hset : ∀ K, (blks.set K 0).getD k 0 = if k = K then 0 else blks.getD k 0 := fun K => by
    simp only [List.getD_eq_getElem?_getD, List.getElem?_set]
    by_cases e : K = k
    · rw [if_pos e, if_pos e.symm]; split <;> rfl
    · rw [if_neg e, if_neg (Ne.symm e)]
  -- a root in slot `K` goes in the round `c` that visits its first index, if it is there
  have hroot : ∀ (K : Nat) (c : Prop) [Decidable c] (x y : S),
      (if (if c then blks.getD K 0 else 0) ≠ 0 then (x, blks.set K 0) else (y, blks)).2.getD k 0 =
        if c ∧ k = K then 0 else blks.getD k 0 := by
    intro K c _ x y
    by_cases hc : c
    · rw [if_pos hc]
      by_cases hr : blks.getD K 0 = 0
      · rw [if_neg (fun h => h hr)]
        by_cases e : k = K
        · rw [if_pos ⟨hc, e⟩, e, hr]
        · rw [if_neg fun h => e h.2]
      · rw [if_pos hr]; exact (hset K).trans (ite_cond_congr (propext (iff_and_self.2 fun _ => hc)))
    · rw [if_neg hc, if_neg (fun h => h rfl), if_neg fun h => hc h.1]
  have hk' : k ≠ DINDIRECT → k ≤ NDIRECT := fun e => Nat.le_of_lt_succ (Nat.lt_of_le_of_ne (Nat.le_of_lt_succ hk) e)
  unfold slotStart
  induction n using range_cases with
  | dir i hi =>
    rw [shrinkStep_eq_dir s blks hi]
    refine (hset i).trans (ite_cond_congr (propext ?_))
    by_cases e : k = DINDIRECT
    · rw [if_pos e]
      exact iff_of_false (fun h => absurd (show DINDIRECT < NDIRECT from e ▸ h ▸ hi) (by decide))
        fun h => absurd (show NDIRECT + NBLKBLK < NDIRECT from h ▸ hi) (by decide)
    · rw [if_neg e]; exact eq_comm
  | ind i hi =>
    rw [shrinkStep_eq_ind s blks hi]
    dsimp only
    rw [indshrink_ret]
    refine (hroot INDIRECT _ _ _).trans (ite_cond_congr (propext ?_))
    by_cases e : k = DINDIRECT
    · rw [if_pos e]
      exact iff_of_false (fun h => absurd (show DINDIRECT = INDIRECT from e ▸ h.2) (by decide))
        fun h => Nat.ne_of_lt hi (Nat.add_left_cancel h)
    · rw [if_neg e]
      refine ⟨fun h => by rw [h.1, h.2]; rfl, fun h => ?_⟩
      have hi0 : i = 0 := Nat.le_zero.1 (Nat.le_of_add_le_add_left (h ▸ hk' e : NDIRECT + i ≤ NDIRECT + 0))
      exact ⟨hi0, by rw [← h, hi0]; rfl⟩
  | dind o =>
    rw [shrinkStep_eq_dind s blks o]
    dsimp only
    rw [indshrink_ret]
    refine (hroot DINDIRECT _ _ _).trans (ite_cond_congr (propext ?_))
    by_cases e : k = DINDIRECT
    · rw [if_pos e]
      exact ⟨fun h => by rw [h.1]; rfl, fun h => ⟨Nat.add_left_cancel (Nat.add_left_cancel h : NBLKBLK + o = NBLKBLK + 0), e⟩⟩
    · rw [if_neg e]
      exact iff_of_false (fun h => e h.2) fun h => absurd (Nat.le_trans (Nat.le_add_right _ _)
        (Nat.le_of_add_le_add_left (h ▸ hk' e : NDIRECT + (NBLKBLK + o) ≤ NDIRECT + 0))) (by decide)

theorem shrinkTo_slot (T N : Nat) (s : S) (blks : List Nat) {k : Nat} (hk : k < NDIRECT + 2) :
    (shrinkTo s blks T N).2.getD k 0 = if T ≤ slotStart k ∧ slotStart k < N then 0 else blks.getD k 0 := by
  fun_induction shrinkTo s blks T N with
  | case1 s blks => exact (if_neg (fun h => Nat.not_lt_zero _ h.2)).symm
  | case2 s blks n hT s' blks' hs ih =>
    have h := shrinkStep_slot s blks n hk
    rw [hs] at h
    rw [ih, h]
    generalize slotStart k = v
    by_cases hc : n = v
    · subst hc
      rw [if_pos rfl, ite_self, if_pos ⟨Nat.le_of_lt_succ hT, Nat.lt_succ_self n⟩]
    · rw [if_neg hc]
      exact ite_cond_congr (propext (and_congr_right fun _ => ⟨Nat.lt_succ_of_lt,
        fun h => Nat.lt_of_le_of_ne (Nat.le_of_lt_succ h) (Ne.symm hc)⟩))
  | case3 s blks n hT => exact (if_neg fun h => hT (Nat.lt_of_le_of_lt h.1 h.2)).symm

/-- from `s` to `s'` cells changed only to zero, and every block freed on the way is all zeros -/
structure OnlyZeroes (s s' : S) : Prop where
  cells : ∀ y x, s'.st y x = s.st y x ∨ s'.st y x = 0
  freed : ∀ c, c ∈ s'.freed → c ∈ s.freed ∨ ∀ x, s'.st c x = 0

theorem OnlyZeroes.refl (s : S) : OnlyZeroes s s := ⟨fun _ _ => Or.inl rfl, fun _ h => Or.inl h⟩

theorem OnlyZeroes.trans {s s₁ s₂ : S} (h₁ : OnlyZeroes s s₁) (h₂ : OnlyZeroes s₁ s₂) : OnlyZeroes s s₂ := by
  have hz : ∀ c, (∀ x, s₁.st c x = 0) → ∀ x, s₂.st c x = 0 :=
    fun c h x => (h₂.cells c x).elim (fun e => e.trans (h x)) id
  refine ⟨fun y x => ?_, fun c hc => ?_⟩
  · rcases h₂.cells y x with e | e
    · rw [e]; exact h₁.cells y x
    · exact Or.inr e
  · rcases h₂.freed c hc with h | h
    · exact (h₁.freed c h).imp id (hz c)
    · exact Or.inr h

theorem OnlyZeroes.free (s : S) (st : Store) (b : Nat) (h : ∀ y x, st y x = s.st y x ∨ st y x = 0) :
    OnlyZeroes s (({ s with st := st } : S).free b) := by
  fun_cases S.free ({ s with st := st } : S) b
  case case1 => exact ⟨h, fun _ => Or.inl⟩
  case case2 =>
    refine ⟨fun y x => iteInduction (motive := fun v => v = _ ∨ v = 0) (fun _ => Or.inr rfl) fun _ => h y x, fun c hc => ?_⟩
    exact (List.mem_cons.1 hc).elim (fun e => Or.inr fun x => e ▸ if_pos rfl) Or.inl

theorem indshrink_zeroes (l : Nat) : ∀ (s : S) (root bn : Nat), OnlyZeroes s (indshrink s root l bn).1 := by
  induction l with
  | zero => intro s root bn; rw [indshrink_zero]; exact .refl s
  | succ l ih =>
    intro s root bn
    by_cases hr : root = 0
    · rw [hr, indshrink_zero_root]; exact .refl s
    · rw [indshrink_succ s root l bn hr]
      have h1 := ih s (s.st root (bn / pow l)) (bn % pow l)
      refine iteInduction (motive := (OnlyZeroes s ·)) (fun _ => ?_) fun _ => h1
      exact h1.trans (.free _ _ _ fun y x => iteInduction (motive := fun v => v = _ ∨ v = 0) (fun _ => Or.inr rfl) fun _ => Or.inl rfl)

theorem shrinkStep_zeroes (s : S) (blks : List Nat) (idx : Nat) : OnlyZeroes s (shrinkStep s blks idx).1 := by
  -- the leaves of `shrinkStep`: a direct pointer; in each indirect range the root is freed too (2, 4) or not (3, 5)
  fun_cases shrinkStep s blks idx
  case case1 => exact .free s s.st _ fun _ _ => Or.inl rfl
  case case2 h _ | case4 h _ =>
    exact ((congrArg (OnlyZeroes s ·.1) h).mp (indshrink_zeroes _ s _ _)).trans (.free _ _ _ fun _ _ => Or.inl rfl)
  case case3 h _ | case5 h _ => exact (congrArg (OnlyZeroes s ·.1) h).mp (indshrink_zeroes _ s _ _)

theorem shrinkTo_zeroes (T N : Nat) (s : S) (blks : List Nat) : OnlyZeroes s (shrinkTo s blks T N).1 := by
  fun_induction shrinkTo s blks T N with
  | case1 s blks => exact .refl s
  | case2 s blks n _ s' blks' hs ih => exact (congrArg Prod.fst hs ▸ shrinkStep_zeroes s blks n).trans ih
  | case3 s blks n _ => exact .refl s

end GoNfsd.Model.BlockMap
