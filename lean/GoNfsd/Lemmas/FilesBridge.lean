import GoNfsd.Lemmas.Files
import GoNfsd.Lemmas.MultiShrink

/-! M7d sits on M7: the map from file blocks to disk blocks that M7d works with IS the pointer tree of M7 read at the data
    positions, and one `bmap` of M7 is one `ensure` of M7d.  Likewise for many files: the block maps of `G` ARE the
    pointer trees of M7m, `G`'s "one owner across files" is `MWF`'s, and one `bmap` on the trees is one `ensure` on the
    maps of that file and nothing on the others. -/
namespace GoNfsd.Model.FileData
open GoNfsd.Model.BlockMap GoNfsd.Gen.Consts

/-- file blocks the pointer tree can address -/
def MAXB : Nat := NDIRECT + NBLKBLK + NBLKBLK * NBLKBLK

/-- the block map of an M7 state, as M7d sees it -/
def mapOf (s : S) (blks : List Nat) (bn : Nat) : Nat :=
  if bn < MAXB then ptr s.st blks (posOf bn) else 0

theorem mapOf_ne_zero {s : S} {blks : List Nat} {i : Nat} (h : mapOf s blks i ≠ 0) :
    (posOf i).valid ∧ mapOf s blks i = ptr s.st blks (posOf i) := by
  revert h
  fun_cases mapOf s blks i
  next hi => exact fun _ => ⟨(posOf_valid i hi).1, rfl⟩
  next => exact fun h => absurd rfl h

/-- one `bmap` is one `ensure`: the right-hand side is that of `ensure_map` -/
theorem bmap_is_ensure (s : S) (blks : List Nat) (bn j : Nat) (h : WFB s blks) (hbn : bn < MAXB) :
    mapOf (bmap s blks bn).1 (bmap s blks bn).2.1 j =
      if mapOf s blks bn = 0 ∧ j = bn then (bmap s blks bn).2.2.1 else mapOf s blks j := by
  have ok := bmap_ok s blks bn h hbn
  unfold mapOf
  by_cases hj : j < MAXB
  · obtain ⟨vj, dj⟩ := posOf_valid j hj
    rw [if_pos hj, if_pos hj, if_pos hbn]
    by_cases hjb : j = bn
    · subst hjb
      by_cases hole : ptr s.st blks (posOf j) = 0
      · rw [if_pos ⟨hole, rfl⟩]
        by_cases hb : (bmap s blks j).2.2.1 = 0
        · rw [hb, ok.miss hb _ vj dj, hole]
        · exact ok.hit hb
      · rw [if_neg fun c => hole c.1]; exact ok.keep _ vj hole
    · rw [if_neg fun c => hjb c.2]; exact ok.frame _ vj dj fun e => hjb (posOf_inj j bn e)
  · rw [if_neg hj, if_neg hj, if_neg fun c : _ ∧ j = bn => hj (c.2 ▸ hbn)]

theorem inj_of_WFB (s : S) (blks : List Nat) (data : Nat → Nat → UInt8) (size : Nat) (h : WFB s blks) :
    Inj (F.mk (mapOf s blks) data size) := fun i j hne he => by
  obtain ⟨vi, ei⟩ := mapOf_ne_zero hne
  obtain ⟨vj, ej⟩ := mapOf_ne_zero (he ▸ hne)
  exact posOf_inj i j (h.inj _ _ vi vj (ei ▸ hne) (ei ▸ ej ▸ he))

def gmaps (s : S) (roots : Nat → List Nat) : Nat → Nat → Nat := fun a i => mapOf s (roots a) i

theorem ginj_of_MWF (s : S) (roots : Nat → List Nat) (h : MWF s roots) (a i b j : Nat)
    (hne : gmaps s roots a i ≠ 0) (he : gmaps s roots a i = gmaps s roots b j) : a = b ∧ i = j := by
  obtain ⟨vi, ei⟩ := mapOf_ne_zero hne
  obtain ⟨vj, ej⟩ := mapOf_ne_zero (he ▸ hne)
  exact (h.inj a b _ _ vi vj (ei ▸ hne) (ei ▸ ej ▸ he)).imp_right (posOf_inj i j)

theorem gmaps_step {s s' : S} {roots : Nat → List Nat} {a : Nat} {blks' : List Nat} (h : MWF s roots)
    (hs : FileStep s s' (roots a) blks') (b j : Nat) :
    gmaps s' (setRoots roots a blks') b j = if b = a then mapOf s' blks' j else gmaps s roots b j := by
  unfold gmaps
  by_cases hb : b = a
  · rw [if_pos hb, hb, setRoots_self]
  · rw [if_neg hb, setRoots_ne _ _ hb]
    unfold mapOf
    by_cases hj : j < MAXB
    · rw [if_pos hj, if_pos hj, hs.frame h b hb _ (posOf_valid j hj).1]
    · rw [if_neg hj, if_neg hj]

theorem mbmap_is_gensure (s : S) (roots : Nat → List Nat) (a bn : Nat) (h : MWF s roots) (hbn : bn < MAXB)
    (b j : Nat) :
    gmaps (bmap s (roots a) bn).1 (setRoots roots a (bmap s (roots a) bn).2.1) b j =
      if b = a ∧ gmaps s roots a bn = 0 ∧ j = bn then (bmap s (roots a) bn).2.2.1 else gmaps s roots b j := by
  rw [gmaps_step h (bmap_fileStep s (roots a) bn (h.file a) hbn)]
  by_cases hb : b = a
  · subst hb
    rw [if_pos rfl, bmap_is_ensure s (roots b) bn j (h.file b) hbn]
    simp only [gmaps, true_and]
  · rw [if_neg hb, if_neg fun c => hb c.1]

/-- the run of `Shrink` down to `T` blocks is the `map` part of `F.resize` (`resize_map`) with `T = roundUp n` -/
theorem shrinkTo_is_unmap (s : S) (blks : List Nat) (T N j : Nat) (h : WFB s blks)
    (hN : N ≤ MAXBLKS) (hemp : EmptyFrom s.st blks N) :
    mapOf (shrinkTo s blks T N).1 (shrinkTo s blks T N).2 j = if T ≤ j then 0 else mapOf s blks j := by
  obtain ⟨_, _, o3, _, _⟩ := shrinkTo_ok T N s blks h.len h.inj hN hemp
  unfold mapOf
  by_cases hj : j < MAXB
  · rw [if_pos hj, if_pos hj, o3 (posOf j) (posOf_valid j hj).1, firstBn_posOf]
  · rw [if_neg hj, if_neg hj, ite_self]

theorem mshrink_is_gunmap (s : S) (roots : Nat → List Nat) (a T N : Nat) (h : MWF s roots)
    (hN : N ≤ MAXBLKS) (hemp : EmptyFrom s.st (roots a) N) (b j : Nat) :
    gmaps (shrinkTo s (roots a) T N).1 (setRoots roots a (shrinkTo s (roots a) T N).2) b j =
      if b = a ∧ T ≤ j then 0 else gmaps s roots b j := by
  rw [gmaps_step h (shrinkTo_fileStep s (roots a) T N (h.file a) hN hemp)]
  by_cases hb : b = a
  · subst hb
    rw [if_pos rfl, shrinkTo_is_unmap s (roots b) T N j (h.file b) hN hemp]
    simp only [gmaps, true_and]
  · rw [if_neg hb, if_neg fun c => hb c.1]

end GoNfsd.Model.FileData
