/- Invariants of the reference model M6 that speak of every inode by itself: a property of single inodes that the five
   edits of a step keep and that holds of an unused inode (`InodeInv`) holds of every inode of every reachable state.
   Four instances: no regular file grows beyond `MaxFileSize`, a directory's size is its slots, a free inode holds nothing,
   names fit their slot. -/
import GoNfsd.Lemmas.FsStep
import GoNfsd.Lemmas.Slots

namespace GoNfsd.Model.Fs
open GoNfsd.Gen.Consts

/-- `Q` is kept by whatever a step does to an inode, and holds of the inodes of a fresh file system -/
structure InodeInv (Q : Inode → Prop) : Prop where
  data : ∀ a x, Q a → a.kind ≠ 0 → AttrUpd a x → Q x
  fresh : ∀ kind gen inum parent t, kind ≠ 0 → Q (freshInode kind gen inum parent t)
  add : ∀ d d' slot inum name, Q d → addName d slot inum name = some d' → Q d'
  rem : ∀ d idx, Q d → Q (remNameAt d idx)
  free : ∀ d, Q (freeInode d)
  unused : Q {}

theorem InodeInv.run {Q : Inode → Prop} (hQ : InodeInv Q) (s : FS) (ops : List (Op × Choice))
    (h : ∀ i, Q (s.get i)) : ∀ i, Q ((run s ops).1.get i) :=
  run_invariant (I := fun s => ∀ i, Q (s.get i))
    (fun s op c h => (step_eff s op c).pointwise h hQ.data hQ.fresh hQ.add hQ.rem hQ.free) s ops h

theorem InodeInv.reachable {Q : Inode → Prop} (hQ : InodeInv Q) (u : Bool) (sz : Nat) (ops : List (Op × Choice)) :
    ∀ i, Q ((Fs.run (mkfs u sz) ops).1.get i) := by
  refine hQ.run _ ops fun i => ?_
  rw [mkfs_get]
  split
  · exact hQ.fresh NF3DIR 1 ROOTINUM ROOTINUM #[] (by decide)
  · exact hQ.unused

def SizeOK (x : Inode) : Prop := x.kind = NF3REG → x.size ≤ MaxFileSize

theorem sizeOK_inv : InodeInv SizeOK := by
  refine ⟨?_, ?_, ?_, fun d idx hd => hd, fun d hk => (nomatch hk), fun hk => (nomatch hk)⟩ <;> unfold SizeOK
  · intro a x ha _ hx hk
    have := hx.size
    have := ha (hx.kind ▸ hk)
    omega
  · intro kind gen inum parent t _
    unfold freshInode
    grind [NF3REG, NF3DIR, NF3LNK]
  · intro d d' slot inum name _ ha hk
    obtain ⟨⟨hd, _⟩, _, _, hk', _⟩ := addName_some _ _ _ _ _ ha
    rw [hk', hd] at hk
    cases hk

def DirSizeOK (x : Inode) : Prop := x.kind = NF3DIR → x.size = x.slots.length * DIRENTSZ

theorem dirSizeOK_inv : InodeInv DirSizeOK := by
  refine ⟨?_, ?_, ?_, ?_, fun d hk => (nomatch hk), fun hk => (nomatch hk)⟩ <;> unfold DirSizeOK
  · intro a x ha _ hx hk
    rw [hx.kind] at hk
    rcases hx.reg with hr | hs
    · rw [hk] at hr; cases hr
    · rw [hs, hx.slots]; exact ha hk
  · intro kind gen inum parent t _
    unfold freshInode
    grind
  · intro d d' slot inum name _ ha _
    exact (addName_some _ _ _ _ _ ha).2.2.1
  · intro d idx hd hk
    simpa [remNameAt] using hd hk

def FreeEmpty (x : Inode) : Prop := x.kind = 0 → x.size = 0 ∧ x.content = [] ∧ x.slots = []

theorem freeEmpty_inv : InodeInv FreeEmpty := by
  refine ⟨?_, ?_, ?_, ?_, fun d _ => ⟨rfl, rfl, rfl⟩, fun _ => ⟨rfl, rfl, rfl⟩⟩ <;> unfold FreeEmpty
  · intro a x _ hl hx hk
    exact absurd (hx.kind ▸ hk) hl
  · intro kind gen inum parent t hk h0
    exact absurd ((freshInode_kind _ _ _ _ _).symm.trans h0) hk
  · intro d d' slot inum name _ ha hk
    obtain ⟨⟨hd, _⟩, _, _, hk', _⟩ := addName_some _ _ _ _ _ ha
    rw [hk', hd] at hk
    cases hk
  · intro d idx hd hk
    obtain ⟨h1, h2, h3⟩ := hd hk
    simp [remNameAt, h1, h2, h3]

def NamesShort (x : Inode) : Prop := ∀ sl ∈ x.slots, sl.name.length ≤ MAXNAMELEN

theorem namesShort_inv : InodeInv NamesShort := by
  refine ⟨?_, ?_, ?_, ?_, fun d sl h => (nomatch h), fun sl h => (nomatch h)⟩ <;> unfold NamesShort
  · intro a x ha _ hx
    rw [hx.slots]; exact ha
  · intro kind gen inum parent t _ sl hm
    rw [freshInode_slots] at hm
    split at hm
    · simp only [List.mem_cons, List.not_mem_nil, or_false] at hm
      rcases hm with rfl | rfl
      · exact (by decide : 1 ≤ MAXNAMELEN)
      · exact (by decide : 2 ≤ MAXNAMELEN)
    · cases hm
  · intro d d' slot inum name hd ha sl hm
    obtain ⟨⟨_, hn, _⟩, hs, _⟩ := addName_some _ _ _ _ _ ha
    rcases mem_putSlot (hs ▸ hm) with h | rfl
    · exact hd sl h
    · exact hn
  · intro d idx hd sl hm
    rcases List.mem_or_eq_of_mem_set hm with h | rfl
    · exact hd sl h
    · exact Nat.zero_le _

end GoNfsd.Model.Fs
