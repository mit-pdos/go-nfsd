/- Directory paging (`pageGo`): a page is a prefix of the list of live slots at or beyond the start offset (`mem_page`),
   non-empty whenever there is such a slot.  Then the client's enumeration loop over pages, and why it returns every
   live slot exactly once. -/
import GoNfsd.Model.Fs

namespace GoNfsd.Model.Fs
open GoNfsd.Gen.Consts

/-- the live slots from index `idx` on whose offset is at or beyond `start`, with their cookies -/
def liveFromGo (start : Nat) : List Slot → Nat → List (Slot × Nat)
  | [], _ => []
  | sl :: rest, idx =>
    if idx * DIRENTSZ < start ∨ sl.inum = 0 then liveFromGo start rest (idx + 1)
    else (sl, (idx + 1) * DIRENTSZ) :: liveFromGo start rest (idx + 1)

def liveFrom (slots : List Slot) (start : Nat) : List (Slot × Nat) := liveFromGo start slots 0

theorem liveFromGo_eq (start : Nat) (rest : List Slot) (idx : Nat) : liveFromGo start rest idx =
    ((rest.zipIdx idx).filter fun p => decide (¬ (p.2 * DIRENTSZ < start ∨ p.1.inum = 0))).map
      fun p => (p.1, (p.2 + 1) * DIRENTSZ) := by
  fun_induction liveFromGo start rest idx
  next => rfl
  next sl rest idx h ih =>
    rw [ih, List.zipIdx_cons, List.filter_cons, if_neg (by simp only [decide_not, h, decide_true]; decide)]
  next sl rest idx h ih => rw [ih, List.zipIdx_cons, List.filter_cons, if_pos (decide_eq_true h)]; rfl

theorem mem_liveFrom {slots : List Slot} {start : Nat} {e : Slot × Nat} :
    e ∈ liveFrom slots start ↔
      ∃ j, slots[j]? = some e.1 ∧ e.1.inum ≠ 0 ∧ e.2 = (j + 1) * DIRENTSZ ∧ start ≤ j * DIRENTSZ := by
  rw [liveFrom, liveFromGo_eq]
  simp only [List.mem_map, List.mem_filter, List.mem_zipIdx_iff_getElem?, decide_eq_true_eq, not_or, Nat.not_lt]
  constructor
  · rintro ⟨p, ⟨hp, hs, hl⟩, rfl⟩; exact ⟨p.2, hp, hl, rfl, hs⟩
  · rintro ⟨j, hj, hl, he, hs⟩; exact ⟨(e.1, j), ⟨hj, hs, hl⟩, Prod.ext rfl he.symm⟩

theorem zipIdx_sorted {α : Type} (l : List α) : ∀ k, (l.zipIdx k).Pairwise fun a b => a.2 < b.2 := by
  induction l with
  | nil => intro k; exact .nil
  | cons x l ih =>
    intro k
    exact List.pairwise_cons.mpr ⟨fun a ha => List.le_snd_of_mem_zipIdx ha, ih (k + 1)⟩

theorem liveFrom_sorted (slots : List Slot) (start : Nat) : (liveFrom slots start).Pairwise fun x y => x.2 < y.2 := by
  rw [liveFrom, liveFromGo_eq]
  exact ((zipIdx_sorted slots 0).filter _).map _ fun a b h => Nat.mul_lt_mul_of_pos_right (Nat.succ_lt_succ h) (by decide)

theorem liveFrom_length_le (slots : List Slot) (ck : Nat) : (liveFrom slots ck).length ≤ slots.length := by
  rw [liveFrom, liveFromGo_eq, List.length_map]
  exact Nat.le_trans (List.length_filter_le _ _) (Nat.le_of_eq List.length_zipIdx)

theorem pageGo_prefix (start lim1 lim2 : Nat) (inc1 inc2 : Nat → Nat) (rest : List Slot) (idx a b : Nat) :
      ∃ k, (pageGo start lim1 lim2 inc1 inc2 rest idx a b).2 = (liveFromGo start rest idx).take k ∧
        ((pageGo start lim1 lim2 inc1 inc2 rest idx a b).1 = true →
            (pageGo start lim1 lim2 inc1 inc2 rest idx a b).2 = liveFromGo start rest idx) ∧
        ((pageGo start lim1 lim2 inc1 inc2 rest idx a b).1 = false →
            1 ≤ k ∧ k ≤ (liveFromGo start rest idx).length) := by
  fun_induction pageGo start lim1 lim2 inc1 inc2 rest idx a b
  next => exact ⟨0, rfl, fun _ => rfl, nofun⟩
  next sl rest idx a b h ih => rw [liveFromGo, if_pos h]; exact ih
  next sl rest idx a b h h2 =>
    rw [liveFromGo, if_neg h]
    exact ⟨1, rfl, nofun, fun _ => ⟨Nat.le_refl 1, Nat.succ_le_succ (Nat.zero_le _)⟩⟩
  next sl rest idx a b h h2 ih =>
    rw [liveFromGo, if_neg h]
    obtain ⟨k, hk1, hk2, hk3⟩ := ih
    exact ⟨k + 1, congrArg _ hk1, fun he => congrArg _ (hk2 he),
      fun he => ⟨Nat.le_add_left 1 k, Nat.succ_le_succ (hk3 he).2⟩⟩

theorem page_prefix (slots : List Slot) (ck lim1 lim2 : Nat) (inc1 inc2 : Nat → Nat) (n1 n2 : Nat) :
    ∃ k, (page slots ck lim1 lim2 inc1 inc2 n1 n2).2 = (liveFrom slots ck).take k ∧
      ((page slots ck lim1 lim2 inc1 inc2 n1 n2).1 = true → (page slots ck lim1 lim2 inc1 inc2 n1 n2).2 = liveFrom slots ck) ∧
      ((page slots ck lim1 lim2 inc1 inc2 n1 n2).1 = false → 1 ≤ k ∧ k ≤ (liveFrom slots ck).length) :=
  pageGo_prefix ck lim1 lim2 inc1 inc2 slots 0 n1 n2

def lastCookie (es : List (Slot × Nat)) (dflt : Nat) : Nat :=
  match es.getLast? with
  | some e => e.2
  | none => dflt

/-- The client loop: ask for a page starting at `ck`; unless it says eof, continue with the
    cookie of the last entry received.  At most `fuel` calls.  Returns the entries received and
    whether end-of-directory was reached. -/
def enumerate (pg : Nat → Bool × List (Slot × Nat)) : Nat → Nat → List (Slot × Nat) × Bool
  | 0, _ => ([], false)
  | f + 1, ck =>
    if (pg ck).1 then ((pg ck).2, true)
    else ((pg ck).2 ++ (enumerate pg f (lastCookie (pg ck).2 ck)).1,
          (enumerate pg f (lastCookie (pg ck).2 ck)).2)

theorem lastCookie_eq {L : List (Slot × Nat)} (h : L ≠ []) (d : Nat) : lastCookie L d = (L.getLast h).2 := by
  rw [lastCookie, List.getLast?_eq_some_getLast h]

theorem take_ne_nil {α : Type} (L : List α) (k : Nat) (h1 : 1 ≤ k) (hk : k ≤ L.length) : L.take k ≠ [] := by
  intro h
  have := congrArg List.length h
  rw [List.length_take, Nat.min_eq_left hk] at this
  exact absurd this (Nat.ne_of_gt h1)

theorem sorted_cut (L : List (Slot × Nat)) (k d : Nat) (hs : L.Pairwise fun x y => x.2 < y.2) (h1 : 1 ≤ k)
    (hk : k ≤ L.length) :
    (∀ e ∈ L.take k, e.2 ≤ lastCookie (L.take k) d) ∧ ∀ e ∈ L.drop k, lastCookie (L.take k) d < e.2 := by
  have hne := take_ne_nil L k h1 hk
  rw [lastCookie_eq hne]
  rw [← List.take_append_drop k L, List.pairwise_append] at hs
  obtain ⟨hT, _, hX⟩ := hs
  refine ⟨fun e he => ?_, fun e he => hX _ (List.getLast_mem hne) e he⟩
  rw [← List.dropLast_concat_getLast hne, List.pairwise_append] at hT
  rw [← List.dropLast_concat_getLast hne, List.mem_append, List.mem_singleton] at he
  rcases he with he | he
  · exact Nat.le_of_lt (hT.2.2 e he _ (List.mem_singleton.mpr rfl))
  · exact Nat.le_of_eq (congrArg _ he)

theorem filter_gt_eq_drop (L : List (Slot × Nat)) (k d : Nat) (hs : L.Pairwise fun x y => x.2 < y.2) (h1 : 1 ≤ k)
    (hk : k ≤ L.length) : L.filter (fun e => lastCookie (L.take k) d < e.2) = L.drop k := by
  obtain ⟨hle, hgt⟩ := sorted_cut L k d hs h1 hk
  conv => lhs; rw [← List.take_append_drop k L]
  rw [List.filter_append, List.filter_eq_nil_iff.mpr fun e he => by simpa using hle e he,
    List.filter_eq_self.mpr fun e he => by simpa using hgt e he, List.nil_append]

/-- what a page returns: the live slots from the cookie's offset on — all of them when it reports end of directory,
    otherwise those up to its last cookie -/
theorem mem_page (slots : List Slot) (ck lim1 lim2 : Nat) (inc1 inc2 : Nat → Nat) (n1 n2 : Nat) (e : Slot × Nat) :
    e ∈ (page slots ck lim1 lim2 inc1 inc2 n1 n2).2 ↔ e ∈ liveFrom slots ck ∧
      ((page slots ck lim1 lim2 inc1 inc2 n1 n2).1 = true ∨
        e.2 ≤ lastCookie (page slots ck lim1 lim2 inc1 inc2 n1 n2).2 ck) := by
  obtain ⟨k, hk1, hk2, hk3⟩ := page_prefix slots ck lim1 lim2 inc1 inc2 n1 n2
  cases he : (page slots ck lim1 lim2 inc1 inc2 n1 n2).1 with
  | true => rw [hk2 he]; exact ⟨fun h => ⟨h, .inl rfl⟩, And.left⟩
  | false =>
    obtain ⟨hle, hgt⟩ := sorted_cut _ k ck (liveFrom_sorted slots ck) (hk3 he).1 (hk3 he).2
    rw [hk1]
    refine ⟨fun h => ⟨List.mem_of_mem_take h, .inr (hle e h)⟩, fun ⟨h, hl⟩ => ?_⟩
    rw [← List.take_append_drop k (liveFrom slots ck), List.mem_append] at h
    exact h.resolve_right fun hd => Nat.lt_irrefl _ (Nat.lt_of_lt_of_le (hgt e hd) (hl.resolve_left (by decide)))

theorem page_ne_nil (slots : List Slot) (ck lim1 lim2 : Nat) (inc1 inc2 : Nat → Nat) (n1 n2 : Nat)
    (h : (page slots ck lim1 lim2 inc1 inc2 n1 n2).1 = false) : (page slots ck lim1 lim2 inc1 inc2 n1 n2).2 ≠ [] := by
  obtain ⟨k, hk1, _, hk3⟩ := page_prefix slots ck lim1 lim2 inc1 inc2 n1 n2
  rw [hk1]
  exact take_ne_nil _ k (hk3 h).1 (hk3 h).2

theorem liveFrom_raise (slots : List Slot) (start m : Nat) (h : start ≤ m * DIRENTSZ) :
    liveFrom slots (m * DIRENTSZ) = (liveFrom slots start).filter fun e => m * DIRENTSZ < e.2 := by
  rw [liveFrom, liveFrom, liveFromGo_eq, liveFromGo_eq, List.filter_map, List.filter_filter]
  refine congrArg _ (List.filter_congr fun p _ => ?_)
  rw [Bool.eq_iff_iff]
  simp only [Function.comp_def, Bool.and_eq_true, decide_eq_true_eq]
  simp only [DIRENTSZ] at h ⊢
  omega

theorem enumerate_exact (slots : List Slot) (lim1 lim2 : Nat) (inc1 inc2 : Nat → Nat) (n1 n2 : Nat) :
    ∀ (fuel ck : Nat), (liveFrom slots ck).length < fuel →
      enumerate (fun c => page slots c lim1 lim2 inc1 inc2 n1 n2) fuel ck = (liveFrom slots ck, true) := by
  intro fuel
  induction fuel with
  | zero => intro ck h; exact absurd h (Nat.not_lt_zero _)
  | succ f ih =>
    intro ck hf
    unfold enumerate
    obtain ⟨k, hk1, hk2, hk3⟩ := page_prefix slots ck lim1 lim2 inc1 inc2 n1 n2
    cases he : (page slots ck lim1 lim2 inc1 inc2 n1 n2).1 with
    | true => rw [if_pos rfl, hk2 he]
    | false =>
      obtain ⟨h1, hk⟩ := hk3 he
      rw [if_neg (by decide), hk1]
      -- the next call starts at the cookie of the last entry, a slot boundary at or beyond `ck`
      have hne := take_ne_nil _ k h1 hk
      obtain ⟨j, _, _, hc, hs⟩ := mem_liveFrom.mp (List.mem_of_mem_take (List.getLast_mem hne))
      have hdrop : liveFrom slots (lastCookie ((liveFrom slots ck).take k) ck) = (liveFrom slots ck).drop k := by
        rw [← filter_gt_eq_drop _ k ck (liveFrom_sorted slots ck) h1 hk, lastCookie_eq hne, hc]
        exact liveFrom_raise slots ck (j + 1) (Nat.le_trans hs (Nat.mul_le_mul_right _ (Nat.le_succ j)))
      rw [ih _ (by rw [hdrop, List.length_drop]; omega), hdrop, List.take_append_drop]

end GoNfsd.Model.Fs
