import GoNfsd.Gen.Super
import GoNfsd.Lemmas.Codec

/-! M7i: the inode table as disk bytes.  `WriteInode` overwrites the 128 bytes at
    `super.Inum2Addr(inum)` (regenerated from super/super.go); `GetInodeLocked` decodes the 128
    bytes found there.  The slots of different inodes do not overlap, none straddles a block, and
    the table lies between the inode bitmap and the data region: writing one inode changes no
    other inode and no data block. -/
namespace GoNfsd.Model.InodeTable
open GoNfsd.Gen.Super GoNfsd.Gen.Consts GoNfsd.Model.Codec

/-- disk block ↦ byte offset ↦ byte -/
abbrev Disk := Nat → Nat → UInt8

/-- block and BYTE offset of an inode's slot (`Inum2Addr` gives the offset in bits) -/
def slot (fs : FsSuper) (inum : Nat) : Nat × Nat := ((fs.Inum2Addr inum).1, (fs.Inum2Addr inum).2 / 8)

/-- `WriteInode`: the encoded inode goes over the slot -/
def writeInode (d : Disk) (fs : FsSuper) (inum : Nat) (bytes : List UInt8) : Disk :=
  fun b o =>
    if b = (slot fs inum).1 ∧ (slot fs inum).2 ≤ o ∧ o < (slot fs inum).2 + bytes.length
    then bytes.getD (o - (slot fs inum).2) 0 else d b o

/-- the bytes `GetInodeLocked` hands to `inode.Decode` -/
def readSlot (d : Disk) (fs : FsSuper) (inum : Nat) : List UInt8 :=
  (List.range INODESZ).map fun k => d (slot fs inum).1 ((slot fs inum).2 + k)

theorem slot_eq (fs : FsSuper) (inum : Nat) :
    slot fs inum = (fs.InodeStart + inum / 32, (inum % 32) * 128) := by
  unfold slot FsSuper.Inum2Addr
  rw [Nat.mul_div_cancel _ (by decide)]
  rfl

theorem slot_in_block (fs : FsSuper) (inum : Nat) : (slot fs inum).2 + INODESZ ≤ BlockSize := by
  rw [slot_eq]
  exact Nat.succ_mul .. ▸ Nat.mul_le_mul_right 128 (Nat.mod_lt inum (by decide))

theorem slots_disjoint (fs : FsSuper) (i j : Nat) (h : i ≠ j) :
    (slot fs i).1 ≠ (slot fs j).1 ∨
    (slot fs i).2 + INODESZ ≤ (slot fs j).2 ∨ (slot fs j).2 + INODESZ ≤ (slot fs i).2 := by
  rw [slot_eq, slot_eq]
  by_cases hq : i / 32 = j / 32
  · -- in one block: different places in it
    have hm : i % 32 ≠ j % 32 := fun e => h (by rw [← Nat.div_add_mod i 32, ← Nat.div_add_mod j 32, hq, e])
    exact .inr ((Nat.lt_or_gt_of_ne hm).imp (fun hlt => Nat.succ_mul .. ▸ Nat.mul_le_mul_right 128 hlt)
      fun hlt => Nat.succ_mul .. ▸ Nat.mul_le_mul_right 128 hlt)
  · exact .inl fun e => hq (Nat.add_left_cancel e)

theorem slot_in_table (fs : FsSuper) (inum : Nat) (h : inum < fs.NInode) :
    fs.InodeStart ≤ (slot fs inum).1 ∧ (slot fs inum).1 < fs.DataStart := by
  rw [slot_eq]
  exact ⟨Nat.le_add_right .., Nat.add_lt_add_left (Nat.div_lt_of_lt_mul (Nat.mul_comm .. ▸ h)) _⟩

theorem read_own (d : Disk) (fs : FsSuper) (inum : Nat) (bytes : List UInt8) (hl : bytes.length = INODESZ) :
    readSlot (writeInode d fs inum bytes) fs inum = bytes := by
  rw [readSlot, ← hl]
  exact (List.map_congr_left fun k hk => by
    rw [writeInode, Nat.add_sub_cancel_left,
      if_pos ⟨rfl, Nat.le_add_right _ _, Nat.add_lt_add_left (List.mem_range.1 hk) _⟩]).trans (GoNfsd.Steps.map_range_getD bytes)

theorem read_other (d : Disk) (fs : FsSuper) (i j : Nat) (bytes : List UInt8) (hl : bytes.length = INODESZ)
    (h : i ≠ j) : readSlot (writeInode d fs i bytes) fs j = readSlot d fs j :=
  List.map_congr_left fun k hk => if_neg fun ⟨hb, h1, h2⟩ => by
    have := List.mem_range.1 hk
    rcases slots_disjoint fs i j h with hd | hd | hd
    · exact hd hb.symm
    · exact Nat.lt_irrefl _ (Nat.lt_of_le_of_lt (Nat.le_add_right ..) (Nat.lt_of_lt_of_le (hl ▸ h2) hd))
    · exact Nat.lt_irrefl _ (Nat.lt_of_le_of_lt (Nat.le_trans hd h1) (Nat.add_lt_add_left this _))

theorem write_leaves_other_blocks (d : Disk) (fs : FsSuper) (inum : Nat) (bytes : List UInt8)
    (h : inum < fs.NInode) (b : Nat) (hb : b < fs.InodeStart ∨ fs.DataStart ≤ b) (o : Nat) :
    writeInode d fs inum bytes b o = d b o := by
  unfold writeInode
  rw [if_neg]
  rintro ⟨rfl, _, _⟩
  have := slot_in_table fs inum h
  exact hb.elim (Nat.not_lt.2 this.1) (Nat.not_le.2 this.2)

end GoNfsd.Model.InodeTable
