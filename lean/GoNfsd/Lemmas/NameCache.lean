/- M8e: the name cache is the directory — invariant of every history of lookups, insertions, removals,
   dropped caches and aborted transactions; the slot `AddNameDir` picks is free or the end.
   Cache and slot list are both read as maps name ↦ (inode number, slot index): `DC.lookup` and `lookupSlots`
   obey the same two equations under insertion (`DC.lookup_add`, `lookup_putSlot`) and removal (`DC.lookup_del`,
   `lookup_set_free`), so they stay equal. -/
import GoNfsd.Model.NameCache
import GoNfsd.Lemmas.Slots

namespace GoNfsd.Model.NameCache
open GoNfsd.Model.Fs GoNfsd.Gen.Consts

theorem find_filter_ne (l : List Ent) (name n : Bytes) :
    (l.filter fun e => e.name ≠ name).find? (fun e => e.name = n) =
      if n = name then none else l.find? (fun e => e.name = n) := by
  rw [List.find?_filter]
  split
  · rename_i h
    subst h
    exact List.find?_eq_none.2 (by simp)
  · rename_i h
    congr 1
    funext e
    by_cases he : e.name = n
    · simp [he, h]
    · simp [he]

theorem DC.lookup_add (c : DC) (name : Bytes) (a i : Nat) (n : Bytes) :
    (c.add name a i).lookup n = if n = name then some (a, i) else c.lookup n := by
  simp only [DC.lookup, DC.add, List.find?_cons, find_filter_ne]
  by_cases h : n = name <;> simp [h, Ne.symm]

theorem DC.lookup_del (c : DC) (name n : Bytes) :
    (c.del name).lookup n = if n = name then none else c.lookup n := by
  simp only [DC.lookup, DC.del, find_filter_ne]
  by_cases h : n = name <;> simp [h]

abbrev DC.Distinct (c : DC) : Prop := c.ents.Pairwise fun a b => a.name ≠ b.name

theorem DC.distinct_add (c : DC) (name : Bytes) (a i : Nat) (h : c.Distinct) : (c.add name a i).Distinct :=
  List.pairwise_cons.2 ⟨fun _ he => Ne.symm (by simpa using (List.mem_filter.1 he).2), h.sublist List.filter_sublist⟩

theorem DC.lookup_iff (c : DC) (hp : c.Distinct) (n : Bytes) (a i : Nat) :
    c.lookup n = some (a, i) ↔ ({ name := n, inum := a, idx := i } : Ent) ∈ c.ents := by
  unfold DC.lookup
  unfold DC.Distinct at hp
  generalize c.ents = l at hp
  induction l with
  | nil => simp
  | cons e l ih =>
    rw [List.pairwise_cons] at hp
    rw [List.find?_cons, List.mem_cons]
    by_cases h : e.name = n
    · subst h
      simp only [decide_true, Option.some.injEq, Prod.mk.injEq]
      constructor
      · rintro ⟨rfl, rfl⟩; exact Or.inl rfl
      · rintro (h | h)
        · rw [← h]; exact ⟨rfl, rfl⟩
        · exact absurd rfl (hp.1 ⟨e.name, a, i⟩ h)
    · simp only [h, decide_false, ih hp.2]
      constructor
      · exact Or.inr
      · rintro (rfl | h')
        · exact absurd rfl h
        · exact h'

def Live (slots : List Slot) (name : Bytes) (ino i : Nat) : Prop :=
  ∃ sl, slots[i]? = some sl ∧ sl.inum ≠ 0 ∧ sl.name = name ∧ sl.inum = ino

theorem lookup_iff (slots : List Slot) (h : (liveNames slots).Nodup) (name : Bytes) (ino i : Nat) :
    lookupSlots slots name = some (ino, i) ↔ Live slots name ino i := by
  constructor
  · intro hl
    obtain ⟨hget, h0, _⟩ := lookupSlots_some.mp hl
    exact ⟨_, hget, h0, rfl, rfl⟩
  · rintro ⟨⟨_, _⟩, hget, h0, rfl, rfl⟩
    exact lookupSlots_of_get h hget h0

/-- what the cache must be: exactly the live entries -/
structure Coh (slots : List Slot) (c : DC) : Prop where
  sound : ∀ e ∈ c.ents, Live slots e.name e.inum e.idx
  complete : ∀ name ino i, Live slots name ino i → ({ name := name, inum := ino, idx := i } : Ent) ∈ c.ents
  names : c.ents.Pairwise (fun a b => a.name ≠ b.name)
  hint : c.lastoff ≤ slots.length

theorem buildGo_lastoff (rest : List Slot) (k : Nat) (dc : DC) : (buildGo rest k dc).lastoff = dc.lastoff := by
  fun_induction buildGo rest k dc with
  | case1 => rfl
  | case2 s rest k dc ih => rw [ih]; split <;> rfl

theorem buildGo_distinct (rest : List Slot) (k : Nat) (dc : DC) (h : dc.Distinct) : (buildGo rest k dc).Distinct := by
  fun_induction buildGo rest k dc with
  | case1 => exact h
  | case2 s rest k dc ih =>
    refine ih ?_
    split
    · exact h
    · exact dc.distinct_add _ _ _ h

/-- the loop lets a later slot of the same name win, the scan an earlier one: with names unique they agree -/
theorem buildGo_lookup (n : Bytes) (rest : List Slot) (k : Nat) (dc : DC) (hu : (liveNames rest).Nodup) :
    (buildGo rest k dc).lookup n = (lookupGo n rest k).or (dc.lookup n) := by
  induction rest generalizing k dc with
  | nil => rfl
  | cons s rest ih =>
    rw [liveNames_cons] at hu
    rw [buildGo, lookupGo]
    by_cases h0 : s.inum = 0
    · rw [if_neg (not_not_intro h0)] at hu
      rw [if_pos h0, if_neg (fun h => h.1 h0)]
      exact ih (k + 1) dc hu
    · rw [if_pos h0, List.nodup_cons] at hu
      rw [if_neg h0, ih (k + 1) _ hu.2, DC.lookup_add]
      by_cases hn : s.name = n
      · rw [if_pos hn.symm, if_pos (And.intro h0 hn), ← hn, (lookupGo_eq_none _ _ _).mpr hu.1]; rfl
      · rw [if_neg (Ne.symm hn), if_neg (fun h : _ ∧ _ => hn h.2)]

theorem firstFreeGo_spec (rest : List Slot) (k j : Nat) (h : firstFreeGo rest k = some j) :
    ∃ m sl, j = k + m ∧ rest[m]? = some sl ∧ sl.inum = 0 := by
  fun_induction firstFreeGo rest k with
  | case1 => cases h
  | case2 s rest k h0 => cases h; exact ⟨0, s, rfl, rfl, h0⟩
  | case3 s rest k h0 ih =>
    obtain ⟨m, sl, h1, h2, h3⟩ := ih h
    exact ⟨m + 1, sl, by rw [h1, Nat.add_assoc, Nat.add_comm 1], h2, h3⟩

theorem firstFree_spec (slots : List Slot) (start j : Nat) (h : firstFree slots start = some j) :
    ∃ sl, slots[j]? = some sl ∧ sl.inum = 0 := by
  obtain ⟨m, sl, h1, h2, h3⟩ := firstFreeGo_spec _ _ _ h
  exact ⟨sl, by rw [h1, ← List.getElem?_drop]; exact h2, h3⟩

theorem addSlot_ok (slots : List Slot) (lastoff : Nat) : slotOk slots (addSlot slots lastoff) = true := by
  unfold addSlot
  split
  · simp [slotOk]
  · rename_i j _ hf
    obtain ⟨sl, h2, h3⟩ := firstFree_spec slots lastoff j hf
    simp [slotOk, h2, h3]
  · simp [slotOk]

/-- names unique on disk, and the cache — the one kept, or the one the next lookup builds — answers as the scan of
    the slots does, holds no name twice, and its hint lies inside the directory -/
structure DInv (d : Dir) : Prop where
  uniq : (liveNames d.slots).Nodup
  look : ∀ n, d.cache.lookup n = lookupSlots d.slots n
  names : d.cache.Distinct
  hint : d.cache.lastoff ≤ d.slots.length

theorem DInv.coh {d : Dir} (h : DInv d) : Coh d.slots d.cache := by
  have key : ∀ n a i, (⟨n, a, i⟩ : Ent) ∈ d.cache.ents ↔ Live d.slots n a i := fun n a i => by
    rw [← d.cache.lookup_iff h.names, h.look, lookup_iff _ h.uniq]
  exact ⟨fun e he => (key _ _ _).1 he, fun n a i => (key n a i).2, h.names, h.hint⟩

theorem dinv_nocache (slots : List Slot) (hu : (liveNames slots).Nodup) : DInv { slots := slots, dc := none } :=
  ⟨hu, fun n => by rw [Dir.cache, build, buildGo_lookup n slots 0 {} hu]; exact Option.or_none,
    buildGo_distinct slots 0 {} List.Pairwise.nil, by rw [Dir.cache, build, buildGo_lastoff]; exact Nat.zero_le _⟩

theorem lookupName_inv (d : Dir) (name : Bytes) (h : DInv d) : DInv (lookupName d name).1 := ⟨h.1, h.2, h.3, h.4⟩

theorem lookupName_eq (d : Dir) (name : Bytes) (h : DInv d) : (lookupName d name).2 = lookupSlots d.slots name :=
  h.look name

theorem addName_inv (d : Dir) (inum : Nat) (name : Bytes) (h : DInv d) (hi : inum ≠ 0)
    (habs : lookupSlots d.slots name = none) : DInv (addName d inum name).1 := by
  unfold addName
  split
  · exact h
  · have hok := addSlot_ok d.slots d.cache.lastoff
    refine ⟨nodup_putSlot _ _ _ hok hi ((lookupGo_eq_none name _ 0).mp habs) h.uniq, fun n => ?_,
      d.cache.distinct_add _ _ _ h.names, Nat.le_trans (slotOk_le _ _ hok) (putSlot_length _ _ _)⟩
    rw [lookup_putSlot _ _ _ _ hok hi habs, ← h.look]
    exact d.cache.lookup_add _ _ _ n

/-- `RemName` with the cache's answer replaced by the scan's -/
theorem remName_eq (d : Dir) (name : Bytes) (h : DInv d) :
    remName d name = if name.length > MAXNAMELEN then (d, none) else
      match lookupSlots d.slots name with
      | none => ({ d with dc := some d.cache }, none)
      | some (_, i) =>
        ({ slots := d.slots.set i freeSlot, dc := some { (d.cache.del name) with lastoff := i } }, some i) := by
  simp only [remName, h.look]
  rfl

theorem remName_some (d : Dir) (name : Bytes) (i : Nat) (h : DInv d) (hr : (remName d name).2 = some i) :
    ∃ ino, lookupSlots d.slots name = some (ino, i) ∧ (remName d name).1 =
      { slots := d.slots.set i freeSlot, dc := some { (d.cache.del name) with lastoff := i } } := by
  revert hr
  -- refused for its length, not in the cache, found
  fun_cases remName d name
  case case3 ino j hl =>
    intro hr
    cases hr
    exact ⟨ino, (h.look name).symm.trans hl, rfl⟩
  all_goals exact nofun

theorem remName_inv (d : Dir) (name : Bytes) (h : DInv d) : DInv (remName d name).1 := by
  rw [remName_eq d name h]
  split
  · exact h
  · split
    · exact ⟨h.1, h.2, h.3, h.4⟩
    · rename_i ino i hl
      refine ⟨nodup_set_free _ i h.uniq, fun n => ?_, h.names.sublist List.filter_sublist, ?_⟩
      · rw [lookup_set_free _ i ino name h.uniq hl, ← h.look]
        exact d.cache.lookup_del name n
      · obtain ⟨hg, _⟩ := lookupSlots_some.mp hl
        exact Nat.le_of_lt (show i < _ by simpa using (List.getElem?_eq_some_iff.1 hg).1)

structure SInv (s : St) : Prop where
  cur : DInv s.cur
  saved : (liveNames s.saved).Nodup

/-! ### refinement: the directory with its cache, hint and slot reuse is a plain map name ↦ inode number -/

/-- what a client can learn of a directory: which inode a name denotes -/
def abs (slots : List Slot) : Bytes → Option Nat := fun n => (lookupSlots slots n).map (·.1)

theorem abs_putSlot (slots : List Slot) (i0 inum : Nat) (name : Bytes)
    (hok : slotOk slots i0 = true) (hi : inum ≠ 0) (habs : lookupSlots slots name = none) :
    abs (putSlot slots i0 { inum := inum, name := name }) = fun n => if n = name then some inum else abs slots n := by
  funext n
  rw [abs, lookup_putSlot slots i0 inum name hok hi habs]
  split <;> rfl

theorem abs_set_free (slots : List Slot) (i ino : Nat) (name : Bytes) (hu : (liveNames slots).Nodup)
    (hl : lookupSlots slots name = some (ino, i)) :
    abs (slots.set i freeSlot) = fun n => if n = name then none else abs slots n := by
  funext n
  rw [abs, lookup_set_free slots i ino name hu hl]
  split <;> rfl

/-- the specification: a map, and the map as it was when the transaction began -/
structure Spec where
  m : Bytes → Option Nat
  saved : Bytes → Option Nat

def Out.noIdx : Out → Out
  | .found ino _ => .found ino 0
  | .added _ => .added 0
  | .removed _ => .removed 0
  | o => o

def specStep (s : Spec) : Op → Spec × Out
  | .look name => (s, match s.m name with | some ino => .found ino 0 | none => .absent)
  | .add name inum =>
    match s.m name with
    | some _ => (s, .present)
    | none =>
      if inum = 0 ∨ name.length > MAXNAMELEN then (s, .refused)
      else ({ s with m := fun n => if n = name then some inum else s.m n }, .added 0)
  | .rem name =>
    if name.length > MAXNAMELEN then (s, .absent)
    else match s.m name with
      | none => (s, .absent)
      | some _ => ({ s with m := fun n => if n = name then none else s.m n }, .removed 0)
  | .drop => (s, .unit)
  | .begin_ => ({ s with saved := s.m }, .unit)
  | .abort => ({ s with m := s.saved }, .unit)

def absSt (s : St) : Spec := { m := abs s.cur.slots, saved := abs s.saved }

/-- one step of the server's directory code keeps the invariant and is one step of the plain map; slot indices
    aside, the replies agree -/
theorem step_spec (s : St) (op : Op) (h : SInv s) :
    SInv (step s op).1 ∧
    absSt (step s op).1 = (specStep (absSt s) op).1 ∧ (step s op).2.noIdx = (specStep (absSt s) op).2 := by
  have hl (name) : DInv (lookupName s.cur name).1 := lookupName_inv s.cur name h.cur
  cases op with
  | look name =>
    refine ⟨⟨hl name, h.saved⟩, ?_⟩
    unfold step specStep
    dsimp only [absSt, abs]
    rw [lookupName_eq s.cur name h.cur]
    cases lookupSlots s.cur.slots name <;> exact ⟨rfl, rfl⟩
  | add name inum =>
    unfold step specStep
    dsimp only [absSt, abs]
    rw [lookupName_eq s.cur name h.cur]
    cases hlk : lookupSlots s.cur.slots name with
    | some r => exact ⟨⟨hl name, h.saved⟩, rfl, rfl⟩
    | none =>
      dsimp only [Option.map_none]
      by_cases hi : inum = 0
      · rw [if_pos hi, if_pos (.inl hi)]; exact ⟨⟨hl name, h.saved⟩, rfl, rfl⟩
      · rw [if_neg hi]
        refine ⟨⟨addName_inv _ inum name (hl name) hi hlk, h.saved⟩, ?_⟩
        rw [addName]
        by_cases hlen : name.length > MAXNAMELEN
        · rw [if_pos hlen, if_pos (.inr hlen)]; exact ⟨rfl, rfl⟩
        · rw [if_neg hlen, if_neg (not_or.mpr ⟨hi, hlen⟩)]
          dsimp only
          exact ⟨congrArg (Spec.mk · _) (abs_putSlot _ _ inum name (addSlot_ok _ _) hi hlk), rfl⟩
  | rem name =>
    refine ⟨⟨remName_inv s.cur name h.cur, h.saved⟩, ?_⟩
    unfold step specStep
    dsimp only [absSt, abs]
    rw [remName_eq s.cur name h.cur]
    by_cases hlen : name.length > MAXNAMELEN
    · rw [if_pos hlen, if_pos hlen]; exact ⟨rfl, rfl⟩
    · rw [if_neg hlen, if_neg hlen]
      cases hlk : lookupSlots s.cur.slots name with
      | none => exact ⟨rfl, rfl⟩
      | some r => exact ⟨congrArg (Spec.mk · _) (abs_set_free _ r.2 r.1 name h.cur.uniq hlk), rfl⟩
  | drop => exact ⟨⟨dinv_nocache _ h.cur.uniq, h.saved⟩, rfl, rfl⟩
  | begin_ => exact ⟨⟨h.cur, h.cur.uniq⟩, rfl, rfl⟩
  | abort => exact ⟨⟨dinv_nocache _ h.saved, h.saved⟩, rfl, rfl⟩

theorem run_inv (s : St) (ops : List Op) (h : SInv s) : SInv (run s ops) := by
  induction ops generalizing s with
  | nil => exact h
  | cons o rest ih => exact ih _ (step_spec s o h).1

theorem empty_inv : SInv {} := ⟨dinv_nocache [] List.nodup_nil, List.nodup_nil⟩

def specRun (s : Spec) : List Op → Spec × List Out
  | [] => (s, [])
  | o :: rest => let r := specStep s o; let q := specRun r.1 rest; (q.1, r.2 :: q.2)

def runOut (s : St) : List Op → St × List Out
  | [] => (s, [])
  | o :: rest => let r := step s o; let q := runOut r.1 rest; (q.1, r.2 :: q.2)

theorem run_refines (s : St) (ops : List Op) (h : SInv s) :
    absSt (runOut s ops).1 = (specRun (absSt s) ops).1 ∧
    (runOut s ops).2.map Out.noIdx = (specRun (absSt s) ops).2 := by
  induction ops generalizing s with
  | nil => exact ⟨rfl, rfl⟩
  | cons o rest ih =>
    obtain ⟨hi, h1, h2⟩ := step_spec s o h
    obtain ⟨i1, i2⟩ := ih (step s o).1 hi
    simp only [runOut, specRun, List.map_cons]
    rw [← h1, ← h2]
    exact ⟨i1, by rw [i2]⟩

theorem specStep_drop (s : Spec) : specStep s .drop = (s, .unit) := rfl

/-! ### a name added right after a removal goes into the slot the removal freed (`Lastoff` points at it): what makes a RENAME inside a directory refill the slot of the old name -/

theorem firstFree_at_freed (slots : List Slot) (i : Nat) (h : i < slots.length) :
    firstFree (slots.set i freeSlot) i = some i := by
  unfold firstFree
  have hd : (slots.set i freeSlot).drop i = freeSlot :: (slots.set i freeSlot).drop (i + 1) := by
    rw [List.drop_eq_getElem_cons (by simpa using h)]
    simp
  rw [hd]
  simp [firstFreeGo, freeSlot]

/-- `i ≠ 0`: offset 0 means "none found" in `AddNameDir`, so a freed slot 0 is not reused -/
theorem addSlot_reuses_the_freed_slot (slots : List Slot) (i : Nat) (h : i < slots.length) (h0 : i ≠ 0) :
    addSlot (slots.set i freeSlot) i = i := by
  unfold addSlot
  rw [firstFree_at_freed slots i h]
  cases i with
  | zero => exact absurd rfl h0
  | succ n => rfl

theorem add_after_remove_reuses_the_slot (d : Dir) (name name' : Bytes) (inum i : Nat) (h : DInv d)
    (hr : (remName d name).2 = some i) (h0 : i ≠ 0) (hl : name'.length ≤ MAXNAMELEN) :
    (addName (remName d name).1 inum name').2 = some i := by
  obtain ⟨ino, hlk, he⟩ := remName_some d name i h hr
  obtain ⟨hg, _⟩ := lookupSlots_some.mp hlk
  have hlt : i < d.slots.length := by simpa using (List.getElem?_eq_some_iff.1 hg).1
  rw [he, addName, if_neg (Nat.not_lt.2 hl)]
  exact congrArg some (addSlot_reuses_the_freed_slot d.slots i hlt h0)

end GoNfsd.Model.NameCache
