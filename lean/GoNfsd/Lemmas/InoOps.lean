/-
The bookkeeping invariant of a file on M7: nothing is mapped beyond what size and ShrinkSize
account for, so every later truncation or removal (which start from there) reaches every block.
Preserved by WRITE (also a short one), hole-filling READ, the finishing of a pending shrink and
SETATTR of the size.
-/
import GoNfsd.Lemmas.ShrinkTree

namespace GoNfsd.Model.BlockMap
open GoNfsd.Gen.Consts

/-- the number of blocks size and ShrinkSize account for -/
def bound (ino : Ino) : Nat := max ino.shrink (roundUp ino.size)

/-- the bookkeeping invariant of an inode: its tree is well-formed and nothing is mapped from `bound ino` on -/
structure InoOK (s : S) (ino : Ino) : Prop where
  wf : WFB s ino.blks
  le : bound ino ≤ MAXBLKS
  empty : EmptyFrom s.st ino.blks (bound ino)

/-- `oldsz` of `Resize` -/
theorem bound_eq_ite (ino : Ino) :
    (if ino.shrink > roundUp ino.size then ino.shrink else roundUp ino.size) = bound ino := by
  unfold bound
  by_cases h : ino.shrink > roundUp ino.size
  · rw [if_pos h, Nat.max_eq_left (Nat.le_of_lt h)]
  · rw [if_neg h, Nat.max_eq_right (Nat.le_of_not_gt h)]

theorem EmptyFrom.max {st : Store} {blks : List Nat} {E a b : Nat} (h : EmptyFrom st blks (max E a)) (hab : a ≤ b) :
    EmptyFrom st blks (max E b) :=
  h.mono (Nat.max_le.2 ⟨Nat.le_max_left _ _, Nat.le_trans hab (Nat.le_max_right _ _)⟩)

theorem writeBlocks_inv (bn n : Nat) (s : S) (ino : Ino) (cnt E : Nat) (hw : WFB s ino.blks)
    (he : EmptyFrom s.st ino.blks (max E (bn + cnt))) (hle : bn + cnt + n ≤ MAXBLKS) :
    let w := writeBlocks s ino bn n cnt
    WFB w.1 w.2.1.blks ∧ EmptyFrom w.1.st w.2.1.blks (max E (bn + cnt + n)) ∧
    (w.2.2 < cnt + n → EmptyFrom w.1.st w.2.1.blks (max E (bn + w.2.2 + 1))) := by
  fun_induction writeBlocks s ino bn n cnt with
  | case1 s ino cnt => exact ⟨hw, he, fun h => absurd h (Nat.lt_irrefl _)⟩
  | case2 s ino n cnt s' blks' _ h =>
    obtain ⟨hwf, hemp⟩ := bmap_inv (N := max E (bn + cnt + 1)) hw (Nat.lt_of_lt_of_le (Nat.lt_add_of_pos_right n.succ_pos) hle)
      (Nat.lt_of_lt_of_le (Nat.lt_succ_self _) (Nat.le_max_right _ _)) (he.max (Nat.le_succ _))
    rw [h] at hwf hemp
    exact ⟨hwf, hemp.max (Nat.add_le_add_left n.succ_pos _), fun _ => hemp⟩
  | case3 s ino n cnt s' blks' blkno _ h _ ih =>
    obtain ⟨hwf, hemp⟩ := bmap_inv (N := max E (bn + cnt + 1)) hw (Nat.lt_of_lt_of_le (Nat.lt_add_of_pos_right n.succ_pos) hle)
      (Nat.lt_of_lt_of_le (Nat.lt_succ_self _) (Nat.le_max_right _ _)) (he.max (Nat.le_succ _))
    rw [h] at hwf hemp
    have e : bn + (cnt + 1) + n = bn + cnt + (n + 1) := by rw [← Nat.add_assoc, Nat.add_right_comm, Nat.add_assoc]
    have := ih hwf hemp (e ▸ hle)
    rwa [e, Nat.add_right_comm cnt, Nat.add_assoc cnt] at this

theorem writeBlocks_ok (bn n : Nat) : ∀ (s : S) (ino : Ino) (cnt E : Nat), WFB s ino.blks →
    EmptyFrom s.st ino.blks E → bn + cnt + n ≤ MAXBLKS →
    WFB (writeBlocks s ino bn n cnt).1 (writeBlocks s ino bn n cnt).2.1.blks ∧
    (writeBlocks s ino bn n cnt).2.1.size = ino.size ∧
    cnt ≤ (writeBlocks s ino bn n cnt).2.2 ∧ (writeBlocks s ino bn n cnt).2.2 ≤ cnt + n ∧
    ((writeBlocks s ino bn n cnt).2.2 = cnt + n →
      (writeBlocks s ino bn n cnt).2.1.shrink = ino.shrink ∧
      EmptyFrom (writeBlocks s ino bn n cnt).1.st (writeBlocks s ino bn n cnt).2.1.blks (max E (bn + cnt + n))) ∧
    ((writeBlocks s ino bn n cnt).2.2 < cnt + n →
      EmptyFrom (writeBlocks s ino bn n cnt).1.st (writeBlocks s ino bn n cnt).2.1.blks
        (max E (bn + (writeBlocks s ino bn n cnt).2.2 + 1)) ∧
      (writeBlocks s ino bn n cnt).2.1.shrink =
        (if (writeBlocks s ino bn n cnt).2.2 > 0 ∧ bn + (writeBlocks s ino bn n cnt).2.2 + 1 > ino.shrink
          then bn + (writeBlocks s ino bn n cnt).2.2 + 1 else ino.shrink)) := by
  intro s ino cnt E hw he hle
  obtain ⟨f1, f2, f3, f4⟩ := writeBlocks_fields bn n s ino cnt
  obtain ⟨i1, i2, i3⟩ := writeBlocks_inv bn n s ino cnt E hw (he.mono (Nat.le_max_left _ _)) hle
  refine ⟨i1, f1, f2, f3, fun h => ⟨?_, i2⟩, fun h => ⟨i3 h, ?_⟩⟩
  · rw [f4, if_neg (fun h' => Nat.lt_irrefl _ (h ▸ h'.1))]
  · rw [f4]; simp only [h, true_and]

/-- `ShrinkSize` after a WRITE that mapped `r > 0` of `n` blocks: not lowered, above the block that failed
    if the write is short, within the reach of the block map -/
theorem shrink_after_write {sh sh' r n bn M : Nat}
    (e : sh' = if r < 0 + n ∧ r > 0 ∧ bn + r + 1 > sh then bn + r + 1 else sh) (hr : r > 0) (hM : bn + n ≤ M)
    (hs : sh ≤ M) : sh ≤ sh' ∧ (r < 0 + n → bn + r + 1 ≤ sh') ∧ sh' ≤ M := by
  subst e
  by_cases hc : r < 0 + n ∧ r > 0 ∧ bn + r + 1 > sh
  · rw [if_pos hc]
    exact ⟨Nat.le_of_lt hc.2.2, fun _ => Nat.le_refl _,
      Nat.le_trans (Nat.add_le_add_left (Nat.zero_add n ▸ hc.1 : r + 1 ≤ n) bn) hM⟩
  · rw [if_neg hc]
    exact ⟨Nat.le_refl _, fun hlt => Nat.le_of_not_gt fun hgt => hc ⟨hlt, hr, hgt⟩, hs⟩

theorem opWrite_ok (s : S) (ino : Ino) (bn n : Nat) (h : InoOK s ino) (hle : bn + n ≤ MAXBLKS)
    (hpos : (opWrite s ino bn n).2.2 > 0) : InoOK (opWrite s ino bn n).1 (opWrite s ino bn n).2.1 := by
  have hf := writeBlocks_fields bn n s ino 0
  have hi := writeBlocks_inv bn n s ino 0 (bound ino) h.wf (h.empty.mono (Nat.le_max_left _ _)) hle
  unfold opWrite at hpos ⊢
  generalize writeBlocks s ino bn n 0 = W at hf hi hpos ⊢
  obtain ⟨s', ino', r⟩ := W
  obtain ⟨f1, _, f3, f4⟩ := hf
  obtain ⟨i1, i2, i3⟩ := hi
  dsimp only at f1 f3 f4 i1 i2 i3 hpos ⊢
  -- the size accounts for the blocks written, ShrinkSize for the block that failed
  have e : (if r > 0 ∧ (bn + r) * BlockSize > ino'.size then { ino' with size := (bn + r) * BlockSize } else ino') =
      { ino' with size := if (bn + r) * BlockSize > ino.size then (bn + r) * BlockSize else ino.size } := by
    rw [f1]
    by_cases hc : (bn + r) * BlockSize > ino.size
    · rw [if_pos ⟨hpos, hc⟩, if_pos hc]
    · rw [if_neg (fun h => hc h.2), if_neg hc, ← f1]
  have hB : ∀ sz, bound { ino' with size := sz } = max ino'.shrink (roundUp sz) := fun _ => rfl
  obtain ⟨k1, k2, k3⟩ := shrink_after_write f4 hpos hle (Nat.le_trans (Nat.le_max_left _ _) h.le)
  have hlo : bound ino ≤ max ino'.shrink (max (roundUp ino.size) (bn + r)) :=
    Nat.max_le.2 ⟨Nat.le_trans k1 (Nat.le_max_left _ _),
      Nat.le_trans (Nat.le_max_left _ _) (Nat.le_max_right _ _)⟩
  rw [e]
  refine ⟨i1, ?_, ?_⟩ <;> rw [hB, roundUp_grow]
  · exact Nat.max_le.2 ⟨k3, Nat.max_le.2 ⟨Nat.le_trans (Nat.le_max_right _ _) h.le,
      Nat.le_trans (Nat.add_le_add_left (Nat.zero_add n ▸ f3) _) hle⟩⟩
  · by_cases hlt : r < 0 + n
    · exact (i3 hlt).mono (Nat.max_le.2 ⟨hlo, Nat.le_trans (k2 hlt) (Nat.le_max_left _ _)⟩)
    · refine i2.mono (Nat.max_le.2 ⟨hlo, Nat.le_trans ?_ (Nat.le_trans (Nat.le_max_right _ _) (Nat.le_max_right _ _))⟩)
      exact Nat.add_le_add_left (Nat.zero_add n ▸ Nat.le_of_not_lt hlt) _

theorem opReadBlock_ok (s : S) (ino : Ino) (bn : Nat) (h : InoOK s ino) :
    InoOK (opReadBlock s ino bn).1 (opReadBlock s ino bn).2 := by
  fun_cases opReadBlock s ino bn
  case case1 => exact h
  case case2 hb _ _ _ _ hm =>
    have hlt : bn < bound ino := Nat.lt_of_lt_of_le (lt_roundUp (Nat.lt_of_not_ge hb)) (Nat.le_max_right _ _)
    obtain ⟨hw, he⟩ := bmap_inv h.wf (Nat.lt_of_lt_of_le hlt h.le) hlt h.empty
    rw [hm] at hw he
    exact ⟨hw, h.le, he⟩

theorem finishShrink_ok (s : S) (ino : Ino) (h : InoOK s ino) :
    InoOK (finishShrink s ino).1 (finishShrink s ino).2 := by
  fun_cases finishShrink s ino
  case case1 hs _ _ hm =>
    have hb : bound ino = ino.shrink := Nat.max_eq_left (Nat.le_of_lt hs)
    obtain ⟨hwf, hemp⟩ := shrinkTo_wf s ino.blks (roundUp ino.size) ino.shrink h.wf (hb ▸ h.le) (hb ▸ h.empty)
    rw [hm] at hwf hemp
    have hle := Nat.le_trans (Nat.le_max_right _ _) h.le
    exact ⟨hwf, Nat.max_le.2 ⟨hle, hle⟩, hemp.mono (Nat.le_max_left _ _)⟩
  case case2 => exact h

/-- the partial last block of a `Resize` to a smaller, unaligned size: cleared, and allocated if it
    was a hole -/
def lastBlock (s : S) (ino : Ino) (sz : Nat) : S × List Nat :=
  if sz < ino.size ∧ sz % BlockSize ≠ 0 then
    ((bmap s ino.blks (sz / BlockSize)).1, (bmap s ino.blks (sz / BlockSize)).2.1)
  else (s, ino.blks)

theorem lastBlock_ok (s : S) (ino : Ino) (sz : Nat) (h : InoOK s ino) :
    let r := lastBlock s ino sz
    WFB r.1 r.2 ∧ EmptyFrom r.1.st r.2 (bound ino) := by
  fun_cases lastBlock s ino sz
  case case1 hc =>
    have hlt : sz / BlockSize < bound ino :=
      Nat.lt_of_lt_of_le (lt_roundUp (Nat.lt_of_le_of_lt (Nat.div_mul_le_self _ _) hc.1)) (Nat.le_max_right _ _)
    exact bmap_inv h.wf (Nat.lt_of_lt_of_le hlt h.le) hlt h.empty
  case case2 => exact ⟨h.wf, h.empty⟩

theorem opResizeB_eq (s : S) (ino : Ino) (sz : Nat) (fits : Bool) (budget : Nat) :
    opResizeB s ino sz fits budget =
      if roundUp sz < bound ino then
        if fits then
          ((shrinkToB (lastBlock s ino sz).1 (lastBlock s ino sz).2 (roundUp sz) budget (bound ino)).1,
           { blks := (shrinkToB (lastBlock s ino sz).1 (lastBlock s ino sz).2 (roundUp sz) budget (bound ino)).2.1,
             size := sz,
             shrink := (shrinkToB (lastBlock s ino sz).1 (lastBlock s ino sz).2 (roundUp sz) budget (bound ino)).2.2 },
           decide ((shrinkToB (lastBlock s ino sz).1 (lastBlock s ino sz).2 (roundUp sz) budget (bound ino)).2.2 > roundUp sz))
        else ((lastBlock s ino sz).1, { blks := (lastBlock s ino sz).2, size := sz, shrink := bound ino }, true)
      else ((lastBlock s ino sz).1, { blks := (lastBlock s ino sz).2, size := sz, shrink := roundUp sz }, false) := by
  unfold opResizeB
  rw [bound_eq_ite]
  rfl

/-- the flag tells the caller to start the background shrinker exactly when the inode is left with blocks
    still to free (`IsShrinking`).  (Before fix b79792e it was false whenever the estimate held — a 507-block
    file was left half-freed with nobody to finish it.) -/
theorem resize_flag_is_exact (s : S) (ino : Ino) (sz : Nat) (fits : Bool) (budget : Nat) :
    let r := opResizeB s ino sz fits budget
    r.2.2 = true ↔ r.2.1.shrink > roundUp r.2.1.size := by
  -- the leaves of `opResizeB`: the shrink is run with the budget (1), left to the shrinker (2), not needed (3)
  fun_cases opResizeB s ino sz fits budget
  case case1 => exact decide_eq_true_iff
  case case2 hlt _ => exact ⟨fun _ => hlt, fun _ => rfl⟩
  case case3 => exact ⟨fun h => Bool.noConfusion h, fun h => absurd h (Nat.lt_irrefl _)⟩

theorem opResizeB_ok (s : S) (ino : Ino) (sz : Nat) (fits : Bool) (budget : Nat) (h : InoOK s ino)
    (hsz : roundUp sz ≤ MAXBLKS) :
    InoOK (opResizeB s ino sz fits budget).1 (opResizeB s ino sz fits budget).2.1 := by
  obtain ⟨hw, he⟩ := lastBlock_ok s ino sz h
  rw [opResizeB_eq]
  by_cases hlt : roundUp sz < bound ino
  · rw [if_pos hlt]
    cases fits with
    | false =>
      rw [if_neg Bool.false_ne_true]
      exact ⟨hw, Nat.max_le.2 ⟨h.le, hsz⟩, he.mono (Nat.le_max_left _ _)⟩
    | true =>
      rw [if_pos rfl, shrinkToB_eq _ _ _ _ _ (Nat.le_of_lt hlt)]
      obtain ⟨hw', he'⟩ := shrinkTo_wf _ _ (max (roundUp sz) (bound ino - budget)) _ hw h.le he
      exact ⟨hw', Nat.max_le.2 ⟨Nat.max_le.2 ⟨hsz, Nat.le_trans (Nat.sub_le _ _) h.le⟩, hsz⟩,
        he'.mono (Nat.le_max_left _ _)⟩
  · rw [if_neg hlt]
    exact ⟨hw, Nat.max_le.2 ⟨hsz, hsz⟩, he.mono (Nat.le_trans (Nat.le_of_not_gt hlt) (Nat.le_max_left _ _))⟩

theorem opResize_eq (s : S) (ino : Ino) (sz : Nat) :
    opResize s ino sz = ((opResizeB s ino sz true (bound ino)).1, (opResizeB s ino sz true (bound ino)).2.1) := by
  rw [opResizeB_eq]
  unfold opResize
  rw [bound_eq_ite]
  by_cases hlt : roundUp sz < bound ino
  · rw [if_pos hlt, if_pos rfl, shrinkToB_eq _ _ _ _ _ (Nat.le_of_lt hlt), Nat.sub_self,
      Nat.max_eq_left (Nat.zero_le _)]
    exact if_pos hlt
  · rw [if_neg hlt]; exact if_neg hlt

/-- (transport along the equation; rewriting the goal with it makes the kernel unfold the run of `Shrink`) -/
theorem InoOK.of_eq {p : S × Ino} {s : S} {ino : Ino} (e : p = (s, ino)) (h : InoOK s ino) : InoOK p.1 p.2 := e ▸ h

theorem opResize_ok (s : S) (ino : Ino) (sz : Nat) (h : InoOK s ino) (hsz : roundUp sz ≤ MAXBLKS) :
    InoOK (opResize s ino sz).1 (opResize s ino sz).2 :=
  .of_eq (opResize_eq s ino sz) (opResizeB_ok s ino sz true (bound ino) h hsz)

inductive IOp where
  | write (bn n : Nat)      -- WRITE of the whole blocks [bn, bn+n)
  | read (bn : Nat)         -- READ of block bn (fills a hole inside the file)
  | resize (sz : Nat)       -- SETATTR of the size, shrink run to completion
  | finish                  -- finish a pending shrink (`getShrink`, the shrinker thread)

def IOp.ok : IOp → Prop
  | .write bn n => bn + n ≤ MAXBLKS
  | .resize sz => roundUp sz ≤ MAXBLKS
  | _ => True

/-- one operation; a WRITE that maps nothing fails and is aborted: nothing happened -/
def inoStep (p : S × Ino) : IOp → S × Ino
  | .write bn n => if (opWrite p.1 p.2 bn n).2.2 > 0 then ((opWrite p.1 p.2 bn n).1, (opWrite p.1 p.2 bn n).2.1) else p
  | .read bn => opReadBlock p.1 p.2 bn
  | .resize sz => opResize p.1 p.2 sz
  | .finish => finishShrink p.1 p.2

theorem inoStep_ok (p : S × Ino) (op : IOp) (h : InoOK p.1 p.2) (hop : op.ok) :
    InoOK (inoStep p op).1 (inoStep p op).2 := by
  -- the leaves of `inoStep`: a WRITE that mapped something (1) or nothing (2), READ (3), SETATTR (4), finishing (5)
  fun_cases inoStep p op
  case case1 bn n hpos => exact opWrite_ok p.1 p.2 bn n h hop hpos
  case case2 => exact h
  case case3 bn => exact opReadBlock_ok p.1 p.2 bn h
  case case4 sz => exact opResize_ok p.1 p.2 sz h hop
  case case5 => exact finishShrink_ok p.1 p.2 h

def inoRun (p : S × Ino) : List IOp → S × Ino
  | [] => p
  | op :: rest => inoRun (inoStep p op) rest

theorem inoRun_ok (p : S × Ino) (ops : List IOp) (h : InoOK p.1 p.2) (hops : ∀ op ∈ ops, op.ok) :
    InoOK (inoRun p ops).1 (inoRun p ops).2 := by
  induction ops generalizing p with
  | nil => exact h
  | cons op rest ih =>
    simp only [inoRun]
    exact ih _ (inoStep_ok p op h (hops op (by simp))) (fun o ho => hops o (List.mem_cons_of_mem _ ho))

def emptyIno : Ino := { blks := List.replicate (NDIRECT + 2) 0, size := 0, shrink := 0 }

theorem InoOK_empty (allocs : List Nat) (hd : DistinctNZ allocs) :
    InoOK { st := emptyStore, allocs := allocs } emptyIno :=
  ⟨WFB_empty allocs hd, Nat.zero_le _, fun q _ _ => ptr_empty q⟩

end GoNfsd.Model.BlockMap
