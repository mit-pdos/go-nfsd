/- Names are unique in every directory of every reachable state of the reference file system M6. -/
import GoNfsd.Lemmas.Slots
import GoNfsd.Lemmas.FsStep
open GoNfsd.Model.Fs GoNfsd.Gen.Consts

namespace GoNfsd.Model.Fs

/-- names are unique in every directory (and in whatever slot list any inode carries) -/
def NU (s : FS) : Prop := ∀ i, (liveNames (s.get i).slots).Nodup

theorem NU_set (s : FS) (i : Nat) (x : Inode) (h : NU s) (hx : (liveNames x.slots).Nodup) : NU (s.set i x) := by
  intro j
  rw [get_set]
  split
  · exact hx
  · exact h j

theorem freshInode_nodup (kind gen inum parent : Nat) (t : Array UInt8) :
    (liveNames (freshInode kind gen inum parent t).slots).Nodup := by
  rw [freshInode_slots]
  split
  · exact List.Nodup.sublist (List.filter_sublist.map _) (show [[46], [46, 46]].Nodup by decide)
  · exact List.nodup_nil

theorem freeInode_nodup (i : Inode) : (liveNames (freeInode i).slots).Nodup := by
  simp [freeInode, liveNames]

theorem lookupIn_none_notin (d : Inode) (name : Bytes) (hk : d.kind = NF3DIR) (h : lookupIn d name = none) :
    name ∉ liveNames d.slots := by
  unfold lookupIn at h
  simp only [hk, ne_eq, not_true_eq_false, if_false] at h
  exact (lookupGo_eq_none name d.slots 0).mp h

theorem addName_nodup (d d' : Inode) (slot inum : Nat) (name : Bytes) (hi : inum ≠ 0)
    (hnot : name ∉ liveNames d.slots) (hn : (liveNames d.slots).Nodup) (h : addName d slot inum name = some d') :
    (liveNames d'.slots).Nodup := by
  obtain ⟨⟨_, _, hok⟩, hs, _⟩ := addName_some _ _ _ _ _ h
  rw [hs]
  exact nodup_putSlot d.slots slot ⟨inum, name⟩ hok hi hnot hn

theorem remNameAt_nodup (d : Inode) (idx : Nat) (h : (liveNames d.slots).Nodup) :
    (liveNames (remNameAt d idx).slots).Nodup := by
  simp only [remNameAt]
  exact nodup_set_free d.slots idx h

theorem lookupIn_some_spec (d : Inode) (name : Bytes) (ino idx : Nat) (h : lookupIn d name = some (ino, idx)) :
    d.kind = NF3DIR ∧ d.slots[idx]? = some ⟨ino, name⟩ ∧ ino ≠ 0 := by
  unfold lookupIn at h
  split at h
  · cases h
  · obtain ⟨hg, h0, _⟩ := lookupSlots_some.mp h
    exact ⟨Classical.not_not.mp ‹_›, hg, h0⟩

theorem unlinked_NU (s : FS) (dino idx cino : Nat) (h : NU s) : NU (unlinked s dino idx cino) :=
  NU_set _ _ _ (NU_set _ _ _ h (remNameAt_nodup _ _ (h _))) (freeInode_nodup _)

theorem unlinked_name_gone {s : FS} {d ino idx : Nat} {name : Bytes} (hN : NU s)
    (hl : lookupIn (s.get d) name = some (ino, idx)) : name ∉ liveNames ((unlinked s d idx ino).get d).slots := by
  obtain ⟨_, hg, h0⟩ := lookupIn_some_spec _ _ _ _ hl
  rw [unlinked_get]
  split
  · exact List.not_mem_nil
  · rw [if_pos rfl]
    exact name_gone_after_clear (hN d) hg h0

theorem Eff.nu {s : FS} {c : Choice} {op : Op} {p : FS × Reply} (e : Eff s c op p) (h : NU s) : NU p.1 := by
  cases e with
  | same => exact h
  | data _ i x _ _ _ hx => exact NU_set _ _ _ h (hx.slots ▸ h i)
  | created _ _ name _ _ dino d' _ g =>
    have hnot := lookupIn_none_notin _ name (addName_some _ _ _ _ _ g.add).1.1 g.absent
    exact NU_set _ _ _ (NU_set _ _ _ h (freshInode_nodup _ _ _ _ _))
      (addName_nodup _ d' c.slot c.inum name (Nat.ne_of_gt (Nat.lt_of_lt_of_le (by decide) g.two)) hnot (h dino) g.add)
  | removed => exact unlinked_NU _ _ _ _ h
  | renamed _ _ _ tname fd td fino fidx s1 d' g =>
    have ⟨hN1, hnot⟩ : NU s1 ∧ tname ∉ liveNames (s1.get td).slots := by
      rcases g.target with ⟨hl, rfl⟩ | ⟨tino, tidx, gt, rfl⟩
      · exact ⟨h, lookupIn_none_notin _ _ g.tdir hl⟩
      · exact ⟨unlinked_NU _ _ _ _ h, unlinked_name_gone h gt.look⟩
    have hN2 : NU (s1.set fd (remNameAt (s1.get fd) fidx)) := NU_set _ _ _ hN1 (remNameAt_nodup _ _ (hN1 _))
    refine NU_set _ _ _ hN2 (addName_nodup _ d' c.slot fino tname (lookupIn_some_spec _ _ _ _ g.look).2.2 ?_ (hN2 td) g.add)
    rw [get_set]
    split
    · rename_i he
      intro hm
      obtain ⟨k, sl, hk, hl, hn⟩ := mem_liveNames.mp hm
      exact hnot (he ▸ mem_liveNames.mpr ⟨k, sl, (live_set_free hk hl).1, hl, hn⟩)
    · exact hnot

theorem step_NU (s : FS) (op : Op) (c : Choice) : NU s → NU (step s op c).1 := (step_eff s op c).nu

theorem mkfs_NU (u : Bool) (sz : Nat) : NU (mkfs u sz) := by
  intro i
  rw [mkfs_get]
  split
  · exact freshInode_nodup _ _ _ _ _
  · exact List.nodup_nil

theorem run_NU (s : FS) (ops : List (Op × Choice)) : NU s → NU (run s ops).1 := run_invariant step_NU s ops

theorem lookupIn_none_of_notin (d : Inode) (name : Bytes) (h : name ∉ liveNames d.slots) :
    lookupIn d name = none := by
  unfold lookupIn
  split
  · rfl
  · exact (lookupGo_eq_none name d.slots 0).mpr h

/-- `hN` is needed: LOOKUP finds the first entry of a name, and a second one behind the removed one would show -/
theorem removed_disappear (s s' : FS) (dfh name : Bytes) (isdir : Bool) (d : Nat) (hN : NU s)
    (hres : resolve s dfh = some d) (h : doRemove s dfh name isdir = (s', .done)) :
    lookupIn (s'.get d) name = none := by
  obtain ⟨dino, cino, idx, hd, _, g, heq⟩ := (doRemove_cases s dfh name isdir).ok (by rw [h]; rfl)
  obtain rfl : dino = d := Option.some.inj (hd.symm.trans hres)
  obtain rfl : unlinked s dino idx cino = s' := (Prod.mk.inj (heq.symm.trans h)).1
  exact lookupIn_none_of_notin _ _ (unlinked_name_gone hN g.look)

end GoNfsd.Model.Fs
