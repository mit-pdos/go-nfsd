import GoNfsd.Lemmas.BlockTree

/-! M7m, M7 for MANY files: several pointer trees (root arrays) over one store of index blocks and one
    allocator.  Mapping a block of one file keeps "no block has two owners" ACROSS files — data
    blocks and index blocks alike — and moves no pointer of any other file.  What makes this so is
    said once, for any operation on the tree of one file (`FileStep`); a mapping is one, a
    truncation (`Lemmas/MultiShrink`) another. -/
namespace GoNfsd.Model.BlockMap
open GoNfsd.Gen.Consts

/-- `WFB` for many files over one store: no block has two owners, across files or within one -/
structure MWF (s : S) (roots : Nat → List Nat) : Prop where
  len : ∀ a, (roots a).length = NDIRECT + 2
  inj : ∀ a b p q, p.valid → q.valid → ptr s.st (roots a) p ≠ 0 →
    ptr s.st (roots a) p = ptr s.st (roots b) q → a = b ∧ p = q
  fresh : ∀ x ∈ s.allocs, x ≠ 0 → (∀ a p, p.valid → ptr s.st (roots a) p ≠ x) ∧ ∀ i, s.st x i = 0
  distinct : DistinctNZ s.allocs

theorem MWF.file {s : S} {roots : Nat → List Nat} (h : MWF s roots) (a : Nat) : WFB s (roots a) :=
  ⟨h.len a, fun p q hp hq hne he => (h.inj a a p q hp hq hne he).2,
   fun x hx hx0 => ⟨fun p hp => (h.fresh x hx hx0).1 a p hp, (h.fresh x hx hx0).2⟩, h.distinct⟩

def setRoots (roots : Nat → List Nat) (a : Nat) (blks : List Nat) : Nat → List Nat :=
  fun x => if x = a then blks else roots x

theorem setRoots_self (roots : Nat → List Nat) (a : Nat) (blks : List Nat) : setRoots roots a blks a = blks :=
  if_pos rfl

theorem setRoots_ne (roots : Nat → List Nat) {a b : Nat} (blks : List Nat) (h : b ≠ a) :
    setRoots roots a blks b = roots b := if_neg h

/-- What an operation on the tree of ONE file owes the others, from state `s` with roots `blks` to
    `s'` with `blks'`: its own tree stays well-formed, it acquires pointers only from the allocator,
    it writes only into blocks it owned or was handed, and it puts nothing into the allocator. -/
structure FileStep (s s' : S) (blks blks' : List Nat) : Prop where
  wf : WFB s' blks'
  src : ∀ p, p.valid → ptr s'.st blks' p ≠ 0 → ptr s'.st blks' p = ptr s.st blks p ∨ ptr s'.st blks' p ∈ s.allocs
  touch : ∀ y x, s'.st y x ≠ s.st y x → y ≠ 0 ∧ ((∃ P, P.valid ∧ ptr s.st blks P = y) ∨ y ∈ s.allocs)
  allocs : s'.allocs ⊆ s.allocs

section
variable {s s' : S} {roots : Nat → List Nat} {a : Nat} {blks' : List Nat}

/-- no other file's tree reads a cell that changed -/
theorem FileStep.frame (hs : FileStep s s' (roots a) blks') (h : MWF s roots) :
    ∀ b, b ≠ a → ∀ q, q.valid → ptr s'.st (roots b) q = ptr s.st (roots b) q := by
  intro b hb
  apply ptr_congr_cells
  intro P hP _ x
  apply Classical.byContradiction
  intro hc
  obtain ⟨hy0, ⟨P', hP', hPy⟩ | hal⟩ := hs.touch _ x hc
  · exact hb (h.inj a b P' P hP' hP (hPy ▸ hy0) hPy).1.symm
  · exact (h.fresh _ hal hy0).1 b P hP rfl

theorem FileStep.origin (hs : FileStep s s' (roots a) blks') (h : MWF s roots) (f : Nat) (p : Pos) (hp : p.valid)
    (hne : ptr s'.st (setRoots roots a blks' f) p ≠ 0) :
    ptr s'.st (setRoots roots a blks' f) p = ptr s.st (roots f) p ∨
      f = a ∧ ptr s'.st (setRoots roots a blks' f) p ∈ s.allocs := by
  revert hne
  fun_cases setRoots roots a blks' f
  case case1 hf => subst hf; exact fun hne => (hs.src p hp hne).imp_right fun m => ⟨rfl, m⟩
  case case2 hf => exact fun _ => Or.inl (hs.frame h f hf p hp)

/-- one owner per block across files: two pointers that were there differ as before, one that was there differs
    from one fresh from the allocator, and two fresh ones belong to the one file operated on, whose own tree is
    well-formed -/
theorem MWF.step (h : MWF s roots) (hs : FileStep s s' (roots a) blks') : MWF s' (setRoots roots a blks') := by
  refine ⟨fun x => ?_, ?_, ?_, hs.wf.distinct⟩
  · fun_cases setRoots roots a blks' x
    · exact hs.wf.len
    · exact h.len x
  · intro x y p q hp hq hne he
    rcases hs.origin h x p hp hne with e1 | ⟨rfl, m1⟩ <;> rcases hs.origin h y q hq (he ▸ hne) with e2 | ⟨rfl, m2⟩
    · exact h.inj x y p q hp hq (e1 ▸ hne) (e1 ▸ e2 ▸ he)
    · exact absurd (e1.symm.trans he) ((h.fresh _ m2 (he ▸ hne)).1 x p hp)
    · exact absurd (e2.symm.trans he.symm) ((h.fresh _ m1 hne).1 y q hq)
    · rw [setRoots_self] at hne he
      exact ⟨rfl, hs.wf.inj p q hp hq hne he⟩
  · intro x hx hx0
    refine ⟨fun f p hp e => ?_, (hs.wf.fresh x hx hx0).2⟩
    rcases hs.origin h f p hp (e ▸ hx0) with e1 | ⟨rfl, _⟩
    · exact (h.fresh x (hs.allocs hx) hx0).1 f p hp (e1 ▸ e)
    · rw [setRoots_self] at e
      exact (hs.wf.fresh x hx hx0).1 p hp e

end

theorem bmap_fileStep (s : S) (blks : List Nat) (bn : Nat) (h : WFB s blks)
    (hbn : bn < NDIRECT + NBLKBLK + NBLKBLK * NBLKBLK) :
    FileStep s (bmap s blks bn).1 blks (bmap s blks bn).2.1 := by
  have ok := bmap_step s blks bn h hbn
  refine ⟨ok.wf, fun p hp _ => ok.fromAllocs p hp, fun y x hc => ?_, ok.sub⟩
  obtain ⟨hy0, P, _, hPv, hPy⟩ := ok.touch y x hc
  rw [← hPy]
  exact ⟨hPy ▸ hy0, (ok.fromAllocs P hPv).imp (fun e => ⟨P, hPv, e.symm⟩) id⟩

theorem mbmap_ok (s : S) (roots : Nat → List Nat) (a bn : Nat) (h : MWF s roots)
    (hbn : bn < NDIRECT + NBLKBLK + NBLKBLK * NBLKBLK) :
    MWF (bmap s (roots a) bn).1 (setRoots roots a (bmap s (roots a) bn).2.1) ∧
    ∀ b, b ≠ a → ∀ q, q.valid → ptr (bmap s (roots a) bn).1.st (roots b) q = ptr s.st (roots b) q :=
  have hs := bmap_fileStep s (roots a) bn (h.file a) hbn
  ⟨h.step hs, hs.frame h⟩

/-- map block `op.2` of file `op.1` -/
def mstep (sr : S × (Nat → List Nat)) (op : Nat × Nat) : S × (Nat → List Nat) :=
  ((bmap sr.1 (sr.2 op.1) op.2).1, setRoots sr.2 op.1 (bmap sr.1 (sr.2 op.1) op.2).2.1)

theorem mrun_wf (ops : List (Nat × Nat)) : ∀ (sr : S × (Nat → List Nat)), MWF sr.1 sr.2 →
    (∀ op ∈ ops, op.2 < NDIRECT + NBLKBLK + NBLKBLK * NBLKBLK) →
    MWF (ops.foldl mstep sr).1 (ops.foldl mstep sr).2 :=
  fun _ h hb => List.foldlRecOn ops mstep h fun sr h op hop => (mbmap_ok sr.1 sr.2 op.1 op.2 h (hb op hop)).1

theorem MWF_empty (allocs : List Nat) (hd : DistinctNZ allocs) :
    MWF { st := emptyStore, allocs := allocs } (fun _ => List.replicate (NDIRECT + 2) 0) :=
  ⟨fun _ => List.length_replicate, fun _ _ p _ _ _ hne => absurd (ptr_empty p) hne,
   fun _ _ hx0 => ⟨fun _ p _ => by rw [ptr_empty p]; exact Ne.symm hx0, fun _ => rfl⟩, hd⟩

end GoNfsd.Model.BlockMap
