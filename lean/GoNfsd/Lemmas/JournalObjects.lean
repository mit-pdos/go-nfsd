import GoNfsd.Gen.Skeleton

/-! A module of its own, so that a change of this table breaks the properties that read it and no other.

    What `alloctxn.WriteBits` hands to the journal: single bits.  `Props/C01` reads it as "a committed allocation
    reaches the bitmap without touching its neighbours", `Props/C04` as part of the bitmap clause. -/
namespace GoNfsd.Model.Skeleton

theorem writeBits_single_bits :
    ∀ e ∈ GoNfsd.Gen.Skeleton.journalObjects, e.1 = "alloctxn.WriteBits" → e.2.1 = "OverWrite" ∧ e.2.2 = "1" := by
  decide +kernel

theorem writeBits_in_journalObjects : ("alloctxn.WriteBits", "OverWrite", "1") ∈ GoNfsd.Gen.Skeleton.journalObjects := by
  decide +kernel

end GoNfsd.Model.Skeleton
