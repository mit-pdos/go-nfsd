/-
Truncation on the tree view of M7: one round of `Shrink` at index `idx` clears exactly the
positions whose subtree starts at file block `idx`, frees exactly the blocks they pointed to, and
keeps the pointer map injective; run from the top down to `T` it leaves exactly the positions
below `T`, and run down to 0 it frees every block the file owned.
-/
import GoNfsd.Lemmas.BlockTree

namespace GoNfsd.Model.BlockMap
open GoNfsd.Gen.Consts

/-- nothing is mapped from file block `n` on -/
def EmptyFromR (st : Store) (dirf : Nat → Nat) (r8 r9 : Nat) (n : Nat) : Prop :=
  ∀ q, q.valid → n ≤ firstBn q → ptrR st dirf r8 r9 q = 0

/-- nothing is mapped from file block `n` on -/
def EmptyFrom (st : Store) (blks : List Nat) (n : Nat) : Prop :=
  ∀ q, q.valid → n ≤ firstBn q → ptr st blks q = 0

theorem EmptyFrom.mono {st : Store} {blks : List Nat} {a b : Nat} (h : EmptyFrom st blks a) (hab : a ≤ b) :
    EmptyFrom st blks b := fun q hq hle => h q hq (Nat.le_trans hab hle)

theorem ptr_zero {st : Store} {blks : List Nat} {b : Nat} (h : ∀ P, P.valid → ptr st blks P ≠ b) :
    ∀ q, q.valid → ptr (st.zero b) blks q = ptr st blks q :=
  ptr_congr_cells fun P hP _ k => by unfold Store.zero; rw [if_neg (h P hP)]

/-- from `(s, blks)` to `(s', blks')` exactly the positions in `C` are cleared, exactly the blocks
    they pointed to are freed, and only blocks the file owned have been written to -/
structure Clears (s s' : S) (blks blks' : List Nat) (C : Pos → Prop) : Prop where
  len : blks'.length = NDIRECT + 2
  zero : ∀ q, q.valid → C q → ptr s'.st blks' q = 0
  keep : ∀ q, q.valid → ¬ C q → ptr s'.st blks' q = ptr s.st blks q
  freed : ∀ b, b ∈ s'.freed ↔ b ∈ s.freed ∨ (b ≠ 0 ∧ ∃ q, q.valid ∧ C q ∧ ptr s.st blks q = b)
  allocs : s'.allocs = s.allocs
  touch : ∀ y x, s'.st y x ≠ s.st y x → y ≠ 0 ∧ ∃ P, P.valid ∧ ptr s.st blks P = y

theorem Clears.refl {s : S} {blks : List Nat} (hl : blks.length = NDIRECT + 2) :
    Clears s s blks blks fun _ => False :=
  ⟨hl, fun _ _ h => h.elim, fun _ _ _ => rfl,
   fun _ => ⟨Or.inl, fun h => h.elim id fun ⟨_, _, _, h, _⟩ => h.elim⟩, rfl, fun _ _ h => absurd rfl h⟩

/-- a position without a pointer may be counted as cleared or not -/
theorem Clears.congr {s s' : S} {blks blks' : List Nat} {C C' : Pos → Prop} (h : Clears s s' blks blks' C)
    (h₁ : ∀ q, q.valid → C q → C' q) (h₂ : ∀ q, q.valid → C' q → C q ∨ ptr s.st blks q = 0) :
    Clears s s' blks blks' C' := by
  refine ⟨h.len, fun q hq hc => ?_, fun q hq hc => h.keep q hq fun hc' => hc (h₁ q hq hc'), fun b => ?_,
    h.allocs, h.touch⟩
  · by_cases hc' : C q
    · exact h.zero q hq hc'
    · rw [h.keep q hq hc']; exact (h₂ q hq hc).resolve_left hc'
  · rw [h.freed b]
    refine or_congr_right (and_congr_right fun hb => ⟨fun ⟨q, hq, hc, hp⟩ => ⟨q, hq, h₁ q hq hc, hp⟩,
      fun ⟨q, hq, hc, hp⟩ => ⟨q, hq, (h₂ q hq hc).resolve_right (fun h0 => hb (hp ▸ h0)), hp⟩⟩)

theorem Clears.trans {s s₁ s₂ : S} {blks blks₁ blks₂ : List Nat} {C₁ C₂ : Pos → Prop}
    (h₁ : Clears s s₁ blks blks₁ C₁) (h₂ : Clears s₁ s₂ blks₁ blks₂ C₂) :
    Clears s s₂ blks blks₂ fun q => C₁ q ∨ C₂ q := by
  refine ⟨h₂.len, fun q hq hc => ?_, fun q hq hc => ?_, fun b => ?_, h₂.allocs.trans h₁.allocs, fun y x hyx => ?_⟩
  · by_cases hc₂ : C₂ q
    · exact h₂.zero q hq hc₂
    · rw [h₂.keep q hq hc₂]; exact h₁.zero q hq (hc.resolve_right hc₂)
  · rw [h₂.keep q hq fun h => hc (Or.inr h), h₁.keep q hq fun h => hc (Or.inl h)]
  · rw [h₂.freed b, h₁.freed b]
    constructor
    · rintro ((h | ⟨hb, q, hq, hc, hp⟩) | ⟨hb, q, hq, hc, hp⟩)
      · exact Or.inl h
      · exact Or.inr ⟨hb, q, hq, Or.inl hc, hp⟩
      · refine Or.inr ⟨hb, q, hq, Or.inr hc, ?_⟩
        by_cases hc₁ : C₁ q
        · rw [h₁.zero q hq hc₁] at hp; exact absurd hp.symm hb
        · rw [← h₁.keep q hq hc₁]; exact hp
    · rintro (h | ⟨hb, q, hq, hc, hp⟩)
      · exact Or.inl (Or.inl h)
      · by_cases hc₁ : C₁ q
        · exact Or.inl (Or.inr ⟨hb, q, hq, hc₁, hp⟩)
        · exact Or.inr ⟨hb, q, hq, hc.resolve_left hc₁, (h₁.keep q hq hc₁).trans hp⟩
  · by_cases e : s₂.st y x = s₁.st y x
    · exact h₁.touch y x (e ▸ hyx)
    · obtain ⟨hy, P, hP, hPy⟩ := h₂.touch y x e
      refine ⟨hy, P, hP, ?_⟩
      by_cases hc₁ : C₁ P
      · rw [h₁.zero P hP hc₁] at hPy; exact absurd hPy.symm hy
      · rw [← h₁.keep P hP hc₁]; exact hPy

theorem Clears.inj {s s' : S} {blks blks' : List Nat} {C : Pos → Prop} (h : Clears s s' blks blks' C)
    (hinj : InjB s.st blks) : InjB s'.st blks' := by
  intro p q hp hq hne heq
  have hp' : ¬ C p := fun hc => hne (h.zero p hp hc)
  have hne' : ptr s'.st blks' p ≠ 0 := hne
  have heq' : ptr s'.st blks' p = ptr s'.st blks' q := heq
  rw [h.keep p hp hp'] at hne' heq'
  have hq' : ¬ C q := fun hc => hne' (heq'.trans (h.zero q hq hc))
  rw [h.keep q hq hq'] at heq'
  exact hinj p q hp hq hne' heq'

theorem Clears.zero_of {s s' : S} {blks blks' : List Nat} {C : Pos → Prop} (h : Clears s s' blks blks' C)
    {q : Pos} (hq : q.valid) (hz : C q ∨ ptr s.st blks q = 0) : ptr s'.st blks' q = 0 := by
  by_cases hc : C q
  · exact h.zero q hq hc
  · rw [h.keep q hq hc]; exact hz.resolve_left hc

/-- UNLINK: once the pointer at `C` is cleared, nobody points to its block any more and `FreeBlock`
    may zero it -/
theorem Clears.unlink {s s₁ : S} {blks blks₁ : List Nat} {C : Pos} (hinj : InjB s.st blks) (hC : C.valid)
    (hlen : blks₁.length = NDIRECT + 2)
    (hclr : ∀ q, q.valid → ptr s₁.st blks₁ q = if q = C then 0 else ptr s.st blks q)
    (hfr : s₁.freed = s.freed) (hal : s₁.allocs = s.allocs)
    (hch : ∀ y x, s₁.st y x ≠ s.st y x → y ≠ 0 ∧ ∃ P, P.valid ∧ ptr s.st blks P = y) :
    Clears s (s₁.free (ptr s.st blks C)) blks blks₁ (· = C) := by
  have hst : ∀ q, q.valid → ptr (s₁.free (ptr s.st blks C)).st blks₁ q = ptr s₁.st blks₁ q := fun q hq => by
    fun_cases S.free s₁ (ptr s.st blks C)
    case case1 => rfl
    case case2 hb =>
      refine ptr_zero (fun P hP => ?_) q hq
      rw [hclr P hP]
      exact iteInduction (motive := (· ≠ _)) (fun _ => Ne.symm hb) fun hPC e => hPC (hinj C P hC hP hb e.symm).symm
  refine ⟨hlen, fun q hq hc => by rw [hst q hq, hclr q hq, if_pos hc],
    fun q hq hc => by rw [hst q hq, hclr q hq, if_neg hc], fun b => ?_, (free_allocs _ _).trans hal, fun y x hyx => ?_⟩
  · rw [mem_free_freed, hfr]
    exact or_congr_right (and_congr_right fun _ =>
      ⟨fun e => ⟨C, hC, rfl, e.symm⟩, fun ⟨q, _, e, hp⟩ => (e ▸ hp).symm⟩)
  · by_cases e : (s₁.free (ptr s.st blks C)).st y x = s₁.st y x
    · exact hch y x (e ▸ hyx)
    · obtain ⟨hb, rfl⟩ := free_touch e
      exact ⟨hb, C, hC, rfl⟩

theorem Clears.unlink_slot {s : S} {blks : List Nat} {C : Pos} {k : Nat} (hinj : InjB s.st blks)
    (hl : blks.length = NDIRECT + 2) (hC : C.valid) (hk : C.loc = .slot k)
    (hkids : ∀ q k', q.valid → q.loc = .cell C k' → ptr s.st blks q = 0) :
    Clears s (s.free (blks.getD k 0)) blks (blks.set k 0) (· = C) := by
  rw [← ptr_slot (st := s.st) hk]
  exact .unlink hinj hC (by rw [List.length_set]; exact hl)
    (ptr_set hl hC hk fun q k' hq hq' => ⟨hkids q k' hq hq', rfl⟩) rfl rfl (fun _ _ h => absurd rfl h)

theorem Clears.unlink_cell {s : S} {blks : List Nat} {C P : Pos} {k : Nat} (hinj : InjB s.st blks)
    (hl : blks.length = NDIRECT + 2) (hC : C.valid) (hk : C.loc = .cell P k) (hr : ptr s.st blks P ≠ 0)
    (hkids : ∀ q k', q.valid → q.loc = .cell C k' → ptr s.st blks q = 0) :
    Clears s (({ s with st := s.st.put (ptr s.st blks P) k 0 } : S).free (ptr s.st blks C)) blks blks (· = C) := by
  refine .unlink (s₁ := { s with st := s.st.put (ptr s.st blks P) k 0 }) hinj hC hl
    (ptr_put hinj hC hk hr fun q k' hq hq' => ⟨hkids q k' hq hq', rfl⟩) rfl rfl fun y x hyx => ?_
  have : y = ptr s.st blks P := put_touch hyx
  exact ⟨this ▸ hr, P, (cell_valid hC hk).1, this.symm⟩

structure ShrinkOK (s s' : S) (blks blks' : List Nat) (idx : Nat) : Prop where
  len : blks'.length = NDIRECT + 2
  ptrs : ∀ q, q.valid → ptr s'.st blks' q = if firstBn q = idx then 0 else ptr s.st blks q
  freed : ∀ b, b ∈ s'.freed ↔ b ∈ s.freed ∨ (b ≠ 0 ∧ ∃ q, q.valid ∧ firstBn q = idx ∧ ptr s.st blks q = b)
  allocs : s'.allocs = s.allocs

theorem Clears.shrinkOK {s s' : S} {blks blks' : List Nat} {idx : Nat}
    (h : Clears s s' blks blks' (firstBn · = idx)) : ShrinkOK s s' blks blks' idx :=
  ⟨h.len, fun q hq => by
    by_cases hc : firstBn q = idx
    · rw [if_pos hc]; exact h.zero q hq hc
    · rw [if_neg hc]; exact h.keep q hq hc, h.freed, h.allocs⟩

/-- the first data position below a position -/
def Pos.first : Pos → Pos
  | .iroot => .ileaf 0
  | .droot => .dleaf 0 0
  | .dmid j => .dleaf j 0
  | q => q

theorem firstBn_first (q : Pos) : firstBn q.first = firstBn q := by cases q <;> rfl

theorem first_valid {q : Pos} (hq : q.valid) : q.first.valid ∧ q.first.isData := by
  have hB : 0 < NBLKBLK := by decide
  cases q with
  | iroot => exact ⟨hB, trivial⟩
  | droot => exact ⟨⟨hB, hB⟩, trivial⟩
  | dmid j => exact ⟨⟨hq, hB⟩, trivial⟩
  | _ => exact ⟨hq, trivial⟩

theorem starts {q p : Pos} (hq : q.valid) (hp : p.valid) (hd : p.isData) : firstBn q = firstBn p ↔ q.first = p :=
  ⟨fun h => by rw [← posOf_firstBn (first_valid hq).1 (first_valid hq).2, firstBn_first, h, posOf_firstBn hp hd],
   fun h => by rw [← firstBn_first, h]⟩

/-- the positions whose first data position is `p`: `p` itself and above it every index position of which it is the first cell -/
theorem first_eq {q p : Pos} (h : q.first = p) : q = p ∨
    match p with
    | .ileaf i => i = 0 ∧ q = .iroot
    | .dleaf j i => i = 0 ∧ (q = .dmid j ∨ (j = 0 ∧ q = .droot))
    | _ => False := by
  subst h
  cases q <;> simp [Pos.first]

/-- ONE LEVEL OF `indshrink`, on the index block at `P` (if there is one): the call one level down,
    on the block at `Q` in cell `bn / pow l`, has cleared `C₁`; in the round `c` in which it hands
    its block up, that block is cleared from the cell and freed. -/
theorem indshrink_level {s : S} {blks : List Nat} {P Q : Pos} {C₁ : Pos → Prop} {l bn k r : Nat} (c : Prop) [Decidable c]
    (hinj : InjB s.st blks) (hl : blks.length = NDIRECT + 2) (hQ : Q.valid) (hk : Q.loc = .cell P k)
    (hdiv : bn / pow l = k) (hmod : bn % pow l = r)
    (hin : Clears s (indshrink s (ptr s.st blks Q) l r).1 blks blks C₁)
    (hret : (indshrink s (ptr s.st blks Q) l r).2 = if c then ptr s.st blks Q else 0)
    (hQC : ¬ C₁ Q) (hPC : ¬ C₁ P)
    (hkids : c → ∀ q k', q.valid → q.loc = .cell Q k' → C₁ q ∨ ptr s.st blks q = 0) :
    Clears s (indshrink s (ptr s.st blks P) (l + 1) bn).1 blks blks fun q => C₁ q ∨ (c ∧ q = Q) := by
  subst hdiv hmod
  -- the block at `Q` goes only if it is there and this is its round
  have hskip : (c → ptr s.st blks Q = 0) → Clears s (indshrink s (ptr s.st blks Q) l (bn % pow l)).1 blks blks
      fun q => C₁ q ∨ (c ∧ q = Q) := fun h0 =>
    hin.congr (fun _ _ => Or.inl) fun q _ e => e.imp id fun (e : c ∧ q = Q) => e.2 ▸ h0 e.1
  by_cases hr : ptr s.st blks P = 0
  · have := hskip fun _ => kids_of_zero hr hk
    rwa [kids_of_zero hr hk, indshrink_zero_root, ← indshrink_zero_root s (l + 1) bn, ← hr] at this
  · rw [indshrink_succ _ _ _ _ hr]
    dsimp only
    rw [← (ptr_cell hk).trans (if_neg hr), hret]
    by_cases hc : c ∧ ptr s.st blks Q ≠ 0
    · rw [if_pos hc.1, if_pos hc.2]
      have hP := hin.keep P (cell_valid hQ hk).1 hPC
      have hB := Clears.unlink_cell (hin.inj hinj) hl hQ hk (hP ▸ hr)
        fun q k' hq hq' => hin.zero_of hq (hkids hc.1 q k' hq hq')
      rw [hP, hin.keep Q hQ hQC] at hB
      exact (hin.trans hB).congr (fun _ _ e => e.imp id fun e => ⟨hc.1, e⟩) (fun _ _ e => Or.inl (e.imp id And.right))
    · have h0 : c → ptr s.st blks Q = 0 := fun h => Classical.not_not.1 fun hn => hc ⟨h, hn⟩
      rw [show (if c then ptr s.st blks Q else 0) = 0 from iteInduction (motive := (· = 0)) h0 fun _ => rfl, if_neg (fun h => h rfl)]
      exact hskip h0

/-- level 1: the block one level down is a data block, handed up in every round -/
theorem indshrink_one_clears {s : S} {blks : List Nat} {C P : Pos} {k : Nat} (hinj : InjB s.st blks)
    (hl : blks.length = NDIRECT + 2) (hC : C.valid) (hd : C.isData) (hk : C.loc = .cell P k) :
    Clears s (indshrink s (ptr s.st blks P) 1 k).1 blks blks (· = C) := by
  have h := indshrink_level (l := 0) (bn := k) (C₁ := fun _ => False) True hinj hl hC hk (Nat.div_one k) rfl
    (by rw [indshrink_zero]; exact Clears.refl hl)
    (by rw [indshrink_zero]; exact (if_pos trivial).symm) id id fun _ _ _ _ hq => (hd.kids hq).elim
  exact h.congr (fun _ _ e => e.elim False.elim And.right) (fun _ _ e => Or.inl (Or.inr ⟨trivial, e⟩))

/-- the caller frees the root in slot `k` of the inode in the round `c` at its first cell, if it is
    there: everything below it is gone by then -/
theorem Clears.then_root {s s₁ : S} {blks : List Nat} {C₁ : Pos → Prop} {R : Pos} {k : Nat} (c : Prop) [Decidable c]
    (h : Clears s s₁ blks blks C₁) (hinj : InjB s.st blks) (hR : R.valid) (hk : R.loc = .slot k)
    (hkids : c → ∀ q k', q.valid → q.loc = .cell R k' → C₁ q ∨ ptr s.st blks q = 0) :
    let r := if (if c then blks.getD k 0 else 0) ≠ 0 then (s₁.free (blks.getD k 0), blks.set k 0) else (s₁, blks)
    Clears s r.1 blks r.2 fun q => C₁ q ∨ (c ∧ q = R) := by
  dsimp only
  by_cases hc : c
  · by_cases hr : blks.getD k 0 = 0
    · rw [if_pos hc, if_neg (fun h => h hr)]
      exact h.congr (fun _ _ => Or.inl) fun q _ e => e.imp id fun (e : c ∧ q = R) => e.2 ▸ (ptr_slot hk).trans hr
    · rw [if_pos hc, if_pos hr]
      have hB := Clears.unlink_slot (h.inj hinj) h.len hR hk fun q k' hq hq' => h.zero_of hq (hkids hc q k' hq hq')
      exact (h.trans hB).congr (fun _ _ e => e.imp id fun e => ⟨hc, e⟩) (fun _ _ e => Or.inl (e.imp id And.right))
  · rw [if_neg hc, if_neg (fun h => h rfl)]
    exact h.congr (fun _ _ => Or.inl) fun _ _ e => Or.inl (e.resolve_right fun e => hc e.1)

theorem shrinkStep_dir_clears (s : S) (blks : List Nat) (idx : Nat) (hl : blks.length = NDIRECT + 2)
    (hinj : InjB s.st blks) (hidx : idx < NDIRECT) :
    Clears s (shrinkStep s blks idx).1 blks (shrinkStep s blks idx).2 (firstBn · = idx) := by
  rw [shrinkStep_eq_dir s blks hidx]
  exact (Clears.unlink_slot (C := .dir idx) hinj hl hidx rfl
    fun _ _ _ hq => (Pos.isData.kids (C := .dir idx) trivial hq).elim).congr
    (fun _ _ e => e ▸ rfl) (fun _ hq e => Or.inl ((first_eq ((starts (p := .dir idx) hq hidx trivial).1 e)).resolve_right id))

theorem shrinkStep_dir (s : S) (blks : List Nat) (idx : Nat) (hl : blks.length = NDIRECT + 2)
    (hinj : InjB s.st blks) (hidx : idx < NDIRECT) :
    ShrinkOK s (shrinkStep s blks idx).1 blks (shrinkStep s blks idx).2 idx :=
  (shrinkStep_dir_clears s blks idx hl hinj hidx).shrinkOK

/-- the number of file blocks the block map can address (irreducible: a run of `Shrink` from here
    must never be evaluated by unification) -/
@[irreducible] def MAXBLKS : Nat := NDIRECT + NBLKBLK + NBLKBLK * NBLKBLK

theorem MAXBLKS_eq : MAXBLKS = NDIRECT + NBLKBLK + NBLKBLK * NBLKBLK := by unfold MAXBLKS; rfl

theorem EmptyFrom.top (st : Store) (blks : List Nat) : EmptyFrom st blks MAXBLKS := by
  intro q hq hle
  refine absurd hle (Nat.not_le.2 ?_)
  obtain ⟨hv, hd⟩ := first_valid hq
  rw [MAXBLKS_eq, ← firstBn_first]
  generalize q.first = p at hv hd
  cases p with
  | dir i => exact Nat.lt_of_lt_of_le hv (Nat.le_trans (Nat.le_add_right _ _) (Nat.le_add_right _ _))
  | ileaf i => exact Nat.lt_of_lt_of_le (Nat.add_lt_add_left hv _) (Nat.le_add_right _ _)
  | dleaf j i =>
    refine Nat.lt_of_lt_of_le (Nat.add_lt_add_left hv.2 _) ?_
    rw [Nat.add_assoc, ← Nat.mul_succ]
    exact Nat.add_le_add_left (Nat.mul_le_mul_left _ hv.1) _
  | _ => exact hd.elim

/-- ONE ROUND: the data position is unlinked through its cell, then — each only in the round at its
    first cell — the middle block through its cell of the root, and the root through its slot of
    the inode. -/
theorem shrinkStep_clears (s : S) (blks : List Nat) (idx : Nat) (hl : blks.length = NDIRECT + 2)
    (hinj : InjB s.st blks) (hidx : idx < MAXBLKS) (hemp : EmptyFrom s.st blks (idx + 1)) :
    Clears s (shrinkStep s blks idx).1 blks (shrinkStep s blks idx).2 (firstBn · = idx) := by
  rw [MAXBLKS_eq] at hidx
  induction idx using range_cases with
  | dir i hi => exact shrinkStep_dir_clears s blks i hl hinj hi
  | ind i hi =>
    rw [shrinkStep_eq_ind s blks hi]
    dsimp only
    rw [indshrink_ret]
    have hA := indshrink_one_clears (C := .ileaf i) (P := .iroot) hinj hl hi trivial rfl
    refine (hA.then_root (R := .iroot) (i = 0) hinj trivial rfl fun ho q k' hq hq' => ?_).congr
      (fun q _ e => by rcases e with rfl | ⟨rfl, rfl⟩ <;> rfl)
      (fun q hq e => Or.inl (first_eq ((starts (p := .ileaf i) hq hi trivial).1 e)))
    cases q <;> cases hq'
    by_cases hk : k' = i
    · exact Or.inl (by rw [hk])
    · rw [ho] at hk hemp
      exact Or.inr (hemp _ hq (Nat.add_lt_add_left (Nat.pos_of_ne_zero hk) _))
  | dind o =>
    obtain ⟨j, i, hj, hi, rfl⟩ := exists_cell hidx
    rw [shrinkStep_eq_dind s blks]
    dsimp only
    rw [indshrink_ret]
    -- the data block and, in the round at its first cell, the middle block
    have hX := indshrink_level (P := .droot) (Q := .dmid j) (l := 1) (i = 0) hinj hl hj rfl
      (cell_div_mod hi j).1 (cell_div_mod hi j).2
      (indshrink_one_clears (C := .dleaf j i) (P := .dmid j) hinj hl ⟨hj, hi⟩ trivial rfl)
      (indshrink_ret _ _ _ _) nofun nofun fun hi0 q k' hq hq' => by
        cases q <;> cases hq'
        by_cases hk : k' = i
        · exact Or.inl (by rw [hk])
        · rw [hi0] at hk hemp
          refine Or.inr (hemp _ hq ?_)
          rw [firstBn_dleaf]
          exact Nat.add_lt_add_left (Nat.add_lt_add_left (Nat.add_lt_add_left (Nat.pos_of_ne_zero hk) _) _) _
    refine (hX.then_root (R := .droot) (NBLKBLK * j + i = 0) hinj trivial rfl fun ho q k' hq hq' => ?_).congr
      (fun q _ e => ?_) (fun q hq e => Or.inl ?_)
    · cases q <;> cases hq'
      obtain ⟨hj0, hi0⟩ := Nat.eq_zero_of_add_eq_zero ho
      by_cases hk : k' = 0
      · exact Or.inl (Or.inr ⟨hi0, by rw [hk, (Nat.mul_eq_zero.1 hj0).resolve_left (by decide)]⟩)
      · rw [ho] at hemp
        exact Or.inr (hemp _ hq (Nat.add_lt_add_left (Nat.mul_pos (by decide) (Nat.pos_of_ne_zero hk)) _))
    · rcases e with (rfl | ⟨rfl, rfl⟩) | ⟨ho, rfl⟩
      · exact firstBn_dleaf j i
      · exact firstBn_dleaf j 0
      · rw [ho]; rfl
    · exact (first_eq ((starts (p := .dleaf j i) hq ⟨hj, hi⟩ trivial).1 (e.trans (firstBn_dleaf j i).symm))).elim (fun e => Or.inl (Or.inl e))
        fun ⟨hi0, e⟩ => e.elim (fun e => Or.inl (Or.inr ⟨hi0, e⟩)) fun ⟨hj0, e⟩ => Or.inr ⟨by rw [hi0, hj0]; rfl, e⟩

theorem shrinkStep_ok (s : S) (blks : List Nat) (idx : Nat) (hl : blks.length = NDIRECT + 2)
    (hinj : InjB s.st blks) (hidx : idx < MAXBLKS) (hemp : EmptyFrom s.st blks (idx + 1)) :
    ShrinkOK s (shrinkStep s blks idx).1 blks (shrinkStep s blks idx).2 idx :=
  (shrinkStep_clears s blks idx hl hinj hidx hemp).shrinkOK

theorem shrinkTo_clears (T N : Nat) (s : S) (blks : List Nat) (hl : blks.length = NDIRECT + 2)
    (hinj : InjB s.st blks) (hN : N ≤ MAXBLKS) (hemp : EmptyFrom s.st blks N) :
    Clears s (shrinkTo s blks T N).1 blks (shrinkTo s blks T N).2 (T ≤ firstBn ·) := by
  fun_induction shrinkTo s blks T N with
  | case1 s blks =>
    exact (Clears.refl hl).congr (fun _ _ h => h.elim) (fun q hq _ => Or.inr (hemp q hq (Nat.zero_le _)))
  | case2 s blks n hT s' blks' hs ih =>
    have h₁ := shrinkStep_clears s blks n hl hinj hN hemp
    rw [hs] at h₁
    have h₂ := ih h₁.len (h₁.inj hinj) (Nat.le_of_succ_le hN) fun q hq hle =>
      h₁.zero_of hq ((Classical.em (firstBn q = n)).imp id fun e => hemp q hq (Nat.lt_of_le_of_ne hle (Ne.symm e)))
    exact (h₁.trans h₂).congr (fun q _ e => e.elim (fun e => e ▸ Nat.le_of_lt_succ hT) id)
      (fun q _ e => Or.inl ((Classical.em (firstBn q = n)).imp id fun _ => e))
  | case3 s blks n hT =>
    exact (Clears.refl hl).congr (fun _ _ h => h.elim)
      (fun q hq e => Or.inr (hemp q hq (Nat.le_trans (Nat.le_of_not_lt hT) e)))

theorem shrinkTo_ok (T N : Nat) : ∀ (s : S) (blks : List Nat), blks.length = NDIRECT + 2 →
    InjB s.st blks → N ≤ MAXBLKS → EmptyFrom s.st blks N →
    (shrinkTo s blks T N).2.length = NDIRECT + 2 ∧
    InjB (shrinkTo s blks T N).1.st (shrinkTo s blks T N).2 ∧
    (∀ q, q.valid → ptr (shrinkTo s blks T N).1.st (shrinkTo s blks T N).2 q =
      if T ≤ firstBn q then 0 else ptr s.st blks q) ∧
    (∀ b, b ∈ (shrinkTo s blks T N).1.freed ↔
      b ∈ s.freed ∨ (b ≠ 0 ∧ ∃ q, q.valid ∧ T ≤ firstBn q ∧ ptr s.st blks q = b)) ∧
    (shrinkTo s blks T N).1.allocs = s.allocs := by
  intro s blks hl hinj hN hemp
  have h := shrinkTo_clears T N s blks hl hinj hN hemp
  refine ⟨h.len, h.inj hinj, fun q hq => ?_, h.freed, h.allocs⟩
  by_cases hc : T ≤ firstBn q
  · rw [if_pos hc]; exact h.zero q hq hc
  · rw [if_neg hc]; exact h.keep q hq hc

theorem shrinkTo_zero (N : Nat) (s : S) (blks : List Nat) (hl : blks.length = NDIRECT + 2)
    (hinj : InjB s.st blks) (hN : N ≤ MAXBLKS) (hemp : EmptyFrom s.st blks N) :
    (∀ q, q.valid → ptr (shrinkTo s blks 0 N).1.st (shrinkTo s blks 0 N).2 q = 0) ∧
    ∀ b, b ∈ (shrinkTo s blks 0 N).1.freed ↔ b ∈ s.freed ∨ (b ≠ 0 ∧ ∃ q, q.valid ∧ ptr s.st blks q = b) :=
  have h := shrinkTo_clears 0 N s blks hl hinj hN hemp
  ⟨fun q hq => h.zero q hq (Nat.zero_le _), fun b => (h.freed b).trans (or_congr_right (and_congr_right fun _ =>
    exists_congr fun _ => and_congr_right fun _ => and_iff_right (Nat.zero_le _)))⟩

theorem shrinkTo_touch (T N : Nat) : ∀ (s : S) (blks : List Nat), blks.length = NDIRECT + 2 →
    InjB s.st blks → N ≤ MAXBLKS → EmptyFrom s.st blks N → ∀ y x,
    (shrinkTo s blks T N).1.st y x ≠ s.st y x → y ≠ 0 ∧ ∃ P, P.valid ∧ ptr s.st blks P = y :=
  fun s blks hl hinj hN hemp => (shrinkTo_clears T N s blks hl hinj hN hemp).touch

theorem bmap_inv {s : S} {blks : List Nat} {bn N : Nat} (h : WFB s blks) (hbn : bn < MAXBLKS) (hN : bn < N)
    (hemp : EmptyFrom s.st blks N) :
    let r := bmap s blks bn
    WFB r.1 r.2.1 ∧ EmptyFrom r.1.st r.2.1 N := by
  have hok := bmap_ok s blks bn h (MAXBLKS_eq ▸ hbn)
  refine ⟨hok.wf, fun q hq hle => ?_⟩
  rw [hok.above q hq (by rw [firstBn_posOf]; exact Nat.lt_of_lt_of_le hN hle)]
  exact hemp q hq hle

theorem shrinkTo_wf (s : S) (blks : List Nat) (T N : Nat) (h : WFB s blks) (hN : N ≤ MAXBLKS)
    (hemp : EmptyFrom s.st blks N) :
    let r := shrinkTo s blks T N
    WFB r.1 r.2 ∧ EmptyFrom r.1.st r.2 T := by
  have hc := shrinkTo_clears T N s blks h.len h.inj hN hemp
  refine ⟨⟨hc.len, hc.inj h.inj, fun a ha ha0 => ?_, by rw [hc.allocs]; exact h.distinct⟩, fun q hq => hc.zero q hq⟩
  obtain ⟨f1, f2⟩ := h.fresh a (hc.allocs ▸ ha) ha0
  refine ⟨fun p hp => ?_, fun i => ?_⟩
  · by_cases hT : T ≤ firstBn p
    · rw [hc.zero p hp hT]; exact Ne.symm ha0
    · rw [hc.keep p hp hT]; exact f1 p hp
  · rcases (shrinkTo_zeroes T N s blks).cells a i with e | e
    · rw [e]; exact f2 i
    · exact e

end GoNfsd.Model.BlockMap
