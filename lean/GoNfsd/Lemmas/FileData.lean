import GoNfsd.Model.FileData
import GoNfsd.Lemmas.Steps

/-! M7d refines the content log of M6 (`Model/Fs.byteAt`). The copy loop of `Write` is taken in one induction
    (`writeFrom_ok`); under the invariant `Inv` a byte read is the cell stored (`Inv.byte`), so `Write` and `Resize`
    are computed on cells. -/
namespace GoNfsd.Model.FileData
open GoNfsd.Model.Fs (Ext byteAt readBytes)

def Inj (f : F) : Prop := ∀ i j, f.map i ≠ 0 → f.map i = f.map j → i = j

/-- what the allocator hands out for a hole is a real block, nobody's, all zeros, and not handed
    out twice (M2 `allocator_stream_is_fresh_and_distinct`, M7 `freed_blocks_are_all_zeros`) -/
def FreshOK (f : F) (fresh : Nat → Nat) : Prop :=
  ∀ i, f.map i = 0 → fresh i ≠ 0 ∧ (∀ j, f.map j ≠ fresh i) ∧ (∀ o, f.data (fresh i) o = 0) ∧
    (∀ j, f.map j = 0 → fresh j = fresh i → j = i)

def TailZero (f : F) : Prop := ∀ pos, f.size ≤ pos → f.cell pos = 0

theorem pos_eq (p q : Nat) : p = q ↔ p / BS = q / BS ∧ p % BS = q % BS :=
  ⟨fun h => h ▸ ⟨rfl, rfl⟩, fun ⟨h1, h2⟩ => by rw [← Nat.div_add_mod p BS, ← Nat.div_add_mod q BS, h1, h2]⟩

theorem roundUp_le (n i : Nat) : roundUp n ≤ i ↔ n ≤ i * BS := by
  unfold roundUp
  rw [Nat.div_le_iff_le_mul_add_pred (by decide), Nat.add_sub_assoc (by decide), Nat.add_le_add_iff_right,
    Nat.mul_comm]

theorem lt_roundUp (n i : Nat) : i < roundUp n ↔ i * BS < n := by
  rw [← Nat.not_le, roundUp_le, Nat.not_le]

theorem cut_iff (n p : Nat) :
    n ≤ p ↔ roundUp n ≤ p / BS ∨ (n % BS ≠ 0 ∧ p / BS = n / BS ∧ n % BS ≤ p % BS) := by
  rw [roundUp_le]
  constructor
  · intro h
    by_cases hb : n ≤ p / BS * BS
    · exact .inl hb
    · -- `n` lies inside the block of `p`
      have hq : p / BS = n / BS := Nat.le_antisymm
        ((Nat.le_div_iff_mul_le (by decide)).2 (Nat.le_of_lt (Nat.not_le.1 hb))) (Nat.div_le_div_right h)
      refine .inr ⟨fun h0 => hb ?_, hq, ?_⟩
      · rw [hq, Nat.div_mul_cancel (Nat.dvd_of_mod_eq_zero h0)]
        exact Nat.le_refl n
      · rw [← Nat.div_add_mod n BS, ← Nat.div_add_mod p BS, hq] at h
        exact Nat.le_of_add_le_add_left h
  · rintro (h | ⟨_, hq, hm⟩)
    · exact Nat.le_trans h (Nat.div_mul_le_self p BS)
    · rw [← Nat.div_add_mod n BS, ← Nat.div_add_mod p BS, hq]
      exact Nat.add_le_add_left hm _

/-! ### `ensure` and `poke`, the two halves of a step of the copy loop -/

theorem ensure_map (f : F) (i b j : Nat) :
    (f.ensure i b).map j = if f.map i = 0 ∧ j = i then b else f.map j := by
  fun_cases F.ensure f i b
  next h => simp only [h, true_and]
  next h => rw [if_neg fun c => h c.1]

theorem ensure_data (f : F) (i b : Nat) : (f.ensure i b).data = f.data := by
  fun_cases F.ensure f i b <;> rfl

theorem ensure_size (f : F) (i b : Nat) : (f.ensure i b).size = f.size := by
  fun_cases F.ensure f i b <;> rfl

theorem ensure_mapped (f : F) (fresh : Nat → Nat) (i : Nat) (hf : FreshOK f fresh) :
    (f.ensure i (fresh i)).map i ≠ 0 := by
  rw [ensure_map]; split
  · next h => exact (hf i h.1).1
  · next h => exact fun e => h ⟨e, rfl⟩

/-- `Inode.Read` maps the holes it meets (`bmap` allocates); what it maps is all zeros, so no byte
    of the file changes -/
theorem ensure_cell (f : F) (fresh : Nat → Nat) (i : Nat) (hf : FreshOK f fresh) (p : Nat) :
    (f.ensure i (fresh i)).cell p = f.cell p := by
  unfold F.cell
  rw [ensure_data, ensure_map]
  split
  · next h =>
    obtain ⟨hb0, _, hbz, _⟩ := hf i h.1
    rw [if_neg hb0, hbz, h.2, if_pos h.1]
  · rfl

theorem ensure_inj (f : F) (fresh : Nat → Nat) (i : Nat) (hi : Inj f) (hf : FreshOK f fresh) :
    Inj (f.ensure i (fresh i)) := by
  intro a b hne he
  rw [ensure_map] at hne he
  rw [ensure_map] at he
  split at he <;> split at he
  · next ha hb => rw [ha.2, hb.2]
  · next ha _ => exact absurd he.symm ((hf i ha.1).2.1 b)
  · next _ hb => exact absurd he ((hf i hb.1).2.1 a)
  · next ha _ => rw [if_neg ha] at hne; exact hi a b hne he

theorem ensure_fresh (f : F) (fresh : Nat → Nat) (i : Nat) (hf : FreshOK f fresh) :
    FreshOK (f.ensure i (fresh i)) fresh := by
  fun_cases F.ensure f i (fresh i)
  next h =>
    intro k hz
    dsimp only at hz
    split at hz
    · exact absurd hz (hf i h).1
    · next hk =>
      obtain ⟨a0, ar, az, au⟩ := hf k hz
      refine ⟨a0, fun j => ?_, az, fun j hj e => ?_⟩
      · dsimp only
        split
        · exact fun e => hk (au i h e).symm
        · exact ar j
      · dsimp only at hj
        split at hj
        · exact absurd hj (hf i h).1
        · exact au j hj e
  next => exact hf

theorem poke_cell (f : F) (pos : Nat) (x : UInt8) (hi : Inj f) (hm : f.map (pos / BS) ≠ 0) (p : Nat) :
    (f.poke pos x).cell p = if p = pos then x else f.cell p := by
  unfold F.cell F.poke
  by_cases hp : p = pos
  · subst hp; simp [hm]
  · have : ¬ (f.map (p / BS) = f.map (pos / BS) ∧ p % BS = pos % BS) :=
      fun ⟨h1, h2⟩ => hp ((pos_eq p pos).2 ⟨(hi _ _ hm h1.symm).symm, h2⟩)
    simp only [this, hp, if_false]

theorem poke_fresh (f : F) (fresh : Nat → Nat) (pos : Nat) (x : UInt8) (hf : FreshOK f fresh) :
    FreshOK (f.poke pos x) fresh := by
  intro i hz
  obtain ⟨a0, ar, az, au⟩ := hf i hz
  refine ⟨a0, ar, fun o => ?_, au⟩
  show (if fresh i = f.map (pos / BS) ∧ o = pos % BS then x else f.data (fresh i) o) = 0
  rw [if_neg (fun h => ar _ h.1.symm), az]

def F.step1 (f : F) (fresh : Nat → Nat) (pos : Nat) (x : UInt8) : F :=
  (f.ensure (pos / BS) (fresh (pos / BS))).poke pos x

theorem step1_map (f : F) (fresh : Nat → Nat) (pos : Nat) (x : UInt8) (j : Nat) :
    (f.step1 fresh pos x).map j =
      if f.map (pos / BS) = 0 ∧ j = pos / BS then fresh (pos / BS) else f.map j :=
  ensure_map f (pos / BS) (fresh (pos / BS)) j

theorem step1_keep (f : F) (fresh : Nat → Nat) (pos : Nat) (x : UInt8) (j : Nat) (h : f.map j ≠ 0) :
    (f.step1 fresh pos x).map j = f.map j := by
  rw [step1_map, if_neg (fun ⟨c, e⟩ => h (e ▸ c))]

theorem step1_data (f : F) (fresh : Nat → Nat) (pos : Nat) (x : UInt8) (b o : Nat)
    (hb : b ≠ (f.step1 fresh pos x).map (pos / BS)) : (f.step1 fresh pos x).data b o = f.data b o := by
  show (if b = (f.ensure _ _).map (pos / BS) ∧ o = pos % BS then x else (f.ensure _ _).data b o) = _
  rw [if_neg (fun h => hb h.1), ensure_data]

theorem step1_cell (f : F) (fresh : Nat → Nat) (pos : Nat) (x : UInt8) (hi : Inj f)
    (hf : FreshOK f fresh) (p : Nat) :
    (f.step1 fresh pos x).cell p = if p = pos then x else f.cell p := by
  unfold F.step1
  rw [poke_cell _ pos x (ensure_inj f fresh _ hi hf) (ensure_mapped f fresh _ hf), ensure_cell f fresh _ hf]

theorem writeFrom_size (fresh : Nat → Nat) (xs : List UInt8) (f : F) (pos : Nat) :
    (f.writeFrom fresh pos xs).size = f.size := by
  fun_induction F.writeFrom f fresh pos xs with
  | case1 => rfl
  | case2 f pos x xs ih => exact ih.trans (ensure_size _ _ _)

theorem passes_cons (pos len j : Nat) :
    (∃ k, k < len + 1 ∧ (pos + k) / BS = j) ↔ j = pos / BS ∨ ∃ k, k < len ∧ (pos + 1 + k) / BS = j := by
  constructor
  · rintro ⟨k, hk, e⟩
    cases k with
    | zero => exact .inl e.symm
    | succ k => exact .inr ⟨k, Nat.lt_of_succ_lt_succ hk, Nat.add_right_comm pos k 1 ▸ e⟩
  · rintro (e | ⟨k, hk, e⟩)
    · exact ⟨0, Nat.zero_lt_succ _, e.symm⟩
    · exact ⟨k + 1, Nat.succ_lt_succ hk, Nat.add_right_comm pos 1 k ▸ e⟩

theorem writeFrom_map (fresh : Nat → Nat) (xs : List UInt8) (f : F) (pos j : Nat) :
    (f.writeFrom fresh pos xs).map j =
      if f.map j = 0 ∧ ∃ k, k < xs.length ∧ (pos + k) / BS = j then fresh j else f.map j := by
  fun_induction F.writeFrom f fresh pos xs with
  | case1 => simp
  | case2 f pos x xs ih =>
    rw [ih, ← F.step1, step1_map]
    simp only [List.length_cons, passes_cons]
    by_cases hj : j = pos / BS
    · subst hj
      by_cases h0 : f.map (pos / BS) = 0
      · simp only [h0, true_and, true_or, if_true, ite_self]
      · simp only [h0, false_and, if_false]
    · simp only [hj, and_false, if_false, false_or]

theorem writeFrom_keep (fresh : Nat → Nat) (xs : List UInt8) (f : F) (pos j : Nat) (h : f.map j ≠ 0) :
    (f.writeFrom fresh pos xs).map j = f.map j := by
  rw [writeFrom_map, if_neg (fun c => h c.1)]

/-- the one induction over the loop: it keeps its hypotheses, stores `xs` from `pos` on and changes no
    other byte of the file, and writes only to blocks the file has afterwards -/
theorem writeFrom_ok (fresh : Nat → Nat) (xs : List UInt8) (f : F) (pos : Nat) (hi : Inj f) (hf : FreshOK f fresh) :
      Inj (f.writeFrom fresh pos xs) ∧ FreshOK (f.writeFrom fresh pos xs) fresh ∧
      (∀ p, (f.writeFrom fresh pos xs).cell p =
        if pos ≤ p ∧ p < pos + xs.length then xs.getD (p - pos) 0 else f.cell p) ∧
      ∀ b, (∀ j, (f.writeFrom fresh pos xs).map j ≠ b) → ∀ o, (f.writeFrom fresh pos xs).data b o = f.data b o := by
  fun_induction F.writeFrom f fresh pos xs with
  | case1 => exact ⟨hi, hf, fun p => (if_neg (by simp)).symm, fun _ _ _ => rfl⟩
  | case2 f pos x xs ih =>
    rw [← F.step1] at ih ⊢
    obtain ⟨h1, h2, h3, h4⟩ := ih (ensure_inj f fresh _ hi hf) (poke_fresh _ fresh pos x (ensure_fresh f fresh _ hf))
    refine ⟨h1, h2, fun p => ?_, fun b hb o => ?_⟩
    · rw [h3 p, step1_cell f fresh pos x hi hf p, List.length_cons]
      by_cases hp : p = pos
      · subst hp
        rw [if_neg (fun h => Nat.lt_irrefl _ h.1), if_pos rfl,
          if_pos ⟨Nat.le_refl _, Nat.lt_add_of_pos_right (Nat.succ_pos _)⟩, Nat.sub_self]
        rfl
      · rw [if_neg hp]
        have e : pos + 1 + xs.length = pos + (xs.length + 1) := Nat.add_right_comm pos 1 xs.length
        refine ite_congr (propext ⟨fun h => ⟨Nat.le_of_succ_le h.1, e ▸ h.2⟩,
          fun h => ⟨Nat.lt_of_le_of_ne h.1 (Ne.symm hp), e ▸ h.2⟩⟩) (fun hr => ?_) (fun _ => rfl)
        -- `p - pos` is a successor, so the byte is found in the tail, at `p - (pos + 1)`
        rw [← Nat.succ_pred_eq_of_pos (Nat.sub_pos_of_lt (Nat.lt_of_le_of_ne hr.1 (Ne.symm hp)))]
        rfl
    · -- the block this step writes to is the file's from now on
      rw [h4 b hb o]
      have hm : (f.step1 fresh pos x).map (pos / BS) ≠ 0 := ensure_mapped f fresh _ hf
      exact step1_data f fresh pos x b o (fun e => hb _ (by rw [writeFrom_keep fresh xs _ _ _ hm, e]))

/-- no disk block is mapped twice, and every stored byte at or beyond the size is zero -/
structure Inv (f : F) : Prop where
  inj : Inj f
  tail : TailZero f

/-- under the invariant the size hides nothing: what `Read` shows is what is stored -/
theorem Inv.byte {f : F} (h : Inv f) (p : Nat) : f.byte p = f.cell p := by
  fun_cases F.byte f p
  next => rfl
  next hp => exact (h.tail p (Nat.le_of_not_lt hp)).symm

theorem write_size (f : F) (fresh : Nat → Nat) (off : Nat) (bytes : List UInt8) :
    (f.write fresh off bytes).size = max f.size (off + bytes.length) := rfl

theorem write_cell (f : F) (fresh : Nat → Nat) (off : Nat) (bytes : List UInt8) (hi : Inj f)
    (hf : FreshOK f fresh) (p : Nat) :
    (f.write fresh off bytes).cell p =
      if off ≤ p ∧ p < off + bytes.length then bytes.getD (p - off) 0 else f.cell p :=
  (writeFrom_ok fresh bytes f off hi hf).2.2.1 p

theorem write_inv (f : F) (fresh : Nat → Nat) (off : Nat) (bytes : List UInt8) (h : Inv f)
    (hf : FreshOK f fresh) : Inv (f.write fresh off bytes) := by
  refine ⟨(writeFrom_ok fresh bytes f off h.inj hf).1, fun p hp => ?_⟩
  rw [write_size] at hp
  rw [write_cell f fresh off bytes h.inj hf p,
    if_neg (fun hc => Nat.not_le.2 hc.2 (Nat.le_trans (Nat.le_max_right _ _) hp))]
  exact h.tail p (Nat.le_trans (Nat.le_max_left _ _) hp)

theorem write_byte (f : F) (fresh : Nat → Nat) (off : Nat) (bytes : List UInt8) (h : Inv f)
    (hf : FreshOK f fresh) (p : Nat) :
    (f.write fresh off bytes).byte p =
      if off ≤ p ∧ p < off + bytes.length then bytes.getD (p - off) 0 else f.byte p := by
  rw [(write_inv f fresh off bytes h hf).byte, write_cell f fresh off bytes h.inj hf p, h.byte]

theorem resize_size (f : F) (n : Nat) : (f.resize n).size = n := by
  fun_cases F.resize f n <;> rfl

theorem resize_map (f : F) (n i : Nat) :
    (f.resize n).map i = if n < f.size ∧ roundUp n ≤ i then 0 else f.map i := by
  unfold F.resize F.zeroTail
  by_cases hn : n < f.size <;> by_cases h0 : n % BS = 0 <;> simp [hn, h0]

theorem resize_data (f : F) (n b o : Nat) :
    (f.resize n).data b o =
      if n < f.size ∧ n % BS ≠ 0 ∧ b = f.map (n / BS) ∧ n % BS ≤ o then 0 else f.data b o := by
  unfold F.resize F.zeroTail
  by_cases hn : n < f.size <;> by_cases h0 : n % BS = 0 <;> simp [hn, h0]

theorem resize_cell (f : F) (n : Nat) (h : Inv f) (p : Nat) :
    (f.resize n).cell p = if n ≤ p then 0 else f.cell p := by
  by_cases hn : n < f.size
  · unfold F.cell
    rw [resize_map, resize_data]
    have hc := cut_iff n p
    by_cases hr : roundUp n ≤ p / BS
    · simp [hn, hr, hc]
    · by_cases hm : f.map (p / BS) = 0
      · simp [hm]
      · have : f.map (p / BS) = f.map (n / BS) ↔ p / BS = n / BS := ⟨h.inj _ _ hm, congrArg _⟩
        simp [hn, hr, hm, hc, this]
  · have : (f.resize n).cell p = f.cell p := by unfold F.resize; rw [if_neg hn]; rfl
    rw [this]
    split
    · next hp => exact h.tail p (Nat.le_trans (Nat.le_of_not_lt hn) hp)
    · rfl

theorem resize_inv (f : F) (n : Nat) (h : Inv f) : Inv (f.resize n) := by
  refine ⟨fun i j hne he => ?_, fun p hp => ?_⟩
  · rw [resize_map] at hne he
    rw [resize_map] at he
    by_cases hi : n < f.size ∧ roundUp n ≤ i
    · exact absurd (if_pos hi) hne
    · rw [if_neg hi] at hne he
      split at he
      · exact absurd he hne
      · exact h.inj i j hne he
  · rw [resize_cell f n h p, if_pos (by rwa [resize_size] at hp)]

theorem resize_byte (f : F) (n : Nat) (h : Inv f) (p : Nat) :
    (f.resize n).byte p = if n ≤ p then 0 else f.byte p := by
  rw [(resize_inv f n h).byte, resize_cell f n h p, h.byte]

/-- the simulation with the content log `c` of the reference model M6 -/
def Rel (f : F) (c : List Ext) (size : Nat) : Prop :=
  f.size = size ∧ ∀ p, f.byte p = byteAt c p

theorem arr_getD (a : Array UInt8) (k : Nat) : a.toList.getD k 0 = a.getD k 0 := by
  simp [Array.getD_eq_getD_getElem?, List.getD_eq_getElem?_getD]

theorem write_refines (f : F) (fresh : Nat → Nat) (c : List Ext) (size off : Nat) (data : Array UInt8)
    (h : Inv f) (hf : FreshOK f fresh) (hr : Rel f c size) :
    Rel (f.write fresh off data.toList) (.write off data :: c) (max size (off + data.size)) := by
  refine ⟨by rw [write_size, hr.1, Array.length_toList], fun p => ?_⟩
  rw [write_byte f fresh off data.toList h hf p, hr.2 p, Array.length_toList, arr_getD]
  rfl

theorem resize_refines (f : F) (c : List Ext) (size n : Nat) (h : Inv f) (hr : Rel f c size) :
    Rel (f.resize n) (if n < size then .trunc n :: c else c) n := by
  refine ⟨resize_size f n, fun p => ?_⟩
  rw [resize_byte f n h p, hr.2 p]
  by_cases hn : n < size
  · rw [if_pos hn]; rfl
  · rw [if_neg hn]
    split
    · -- the log records nothing beyond the size
      next hp =>
      rw [← hr.2 p]
      exact (if_neg fun hlt => hn (Nat.lt_of_le_of_lt hp (hr.1 ▸ hlt))).symm
    · rfl

theorem read_refines (f : F) (c : List Ext) (size off n : Nat) (hr : Rel f c size) :
    f.read off n = readBytes c off n :=
  List.map_congr_left fun k _ => hr.2 (off + k)

theorem read_written (f : F) (fresh : Nat → Nat) (off : Nat) (bytes : List UInt8) (h : Inv f)
    (hf : FreshOK f fresh) : (f.write fresh off bytes).read off bytes.length = bytes :=
  (List.map_congr_left fun k hk => by
    rw [write_byte f fresh off bytes h hf, Nat.add_sub_cancel_left,
      if_pos ⟨Nat.le_add_right _ _, Nat.add_lt_add_left (List.mem_range.1 hk) _⟩]).trans
    (GoNfsd.Steps.map_range_getD bytes)

theorem read_beside (f : F) (fresh : Nat → Nat) (off : Nat) (bytes : List UInt8) (h : Inv f)
    (hf : FreshOK f fresh) (off' n : Nat) (hd : off' + n ≤ off ∨ off + bytes.length ≤ off') :
    (f.write fresh off bytes).read off' n = f.read off' n :=
  List.map_congr_left fun k hk => by
    rw [write_byte f fresh off bytes h hf, if_neg fun hc => hd.elim
      (fun h1 => Nat.lt_irrefl _ (Nat.lt_of_lt_of_le (Nat.add_lt_add_left (List.mem_range.1 hk) _) (Nat.le_trans h1 hc.1)))
      (fun h2 => Nat.lt_irrefl _ (Nat.lt_of_lt_of_le hc.2 (Nat.le_trans h2 (Nat.le_add_right ..))))]

inductive DOp where
  | write (fresh : Nat → Nat) (off : Nat) (data : Array UInt8)
  | resize (n : Nat)

def F.apply (f : F) : DOp → F
  | .write fresh off data => f.write fresh off data.toList
  | .resize n => f.resize n

/-- what the reference model M6 does to content and size (`Model/Fs.step`: WRITE, and SETATTR of the size by `resize`) -/
def logApply (cs : List Ext × Nat) : DOp → List Ext × Nat
  | .write _ off data => (.write off data :: cs.1, max cs.2 (off + data.size))
  | .resize n => (if n < cs.2 then .trunc n :: cs.1 else cs.1, n)

def FreshAll : F → List DOp → Prop
  | _, [] => True
  | f, op :: rest =>
    (match op with | .write fresh _ _ => FreshOK f fresh | .resize _ => True) ∧ FreshAll (f.apply op) rest

theorem history_refines (ops : List DOp) :
    ∀ (f : F) (cs : List Ext × Nat), Inv f → Rel f cs.1 cs.2 → FreshAll f ops →
      Inv (ops.foldl F.apply f) ∧ Rel (ops.foldl F.apply f) (ops.foldl logApply cs).1 (ops.foldl logApply cs).2 := by
  induction ops with
  | nil => intro f cs hi hr _; exact ⟨hi, hr⟩
  | cons op rest ih =>
    intro f cs hi hr hf
    cases op with
    | write fresh off data =>
      exact ih _ _ (write_inv f fresh off data.toList hi hf.1)
        (write_refines f fresh cs.1 cs.2 off data hi hf.1 hr) hf.2
    | resize n =>
      exact ih _ _ (resize_inv f n hi) (resize_refines f cs.1 cs.2 n hi hr) hf.2

def F.empty : F := { map := fun _ => 0, data := fun _ _ => 0, size := 0 }

theorem empty_inv : Inv F.empty := ⟨fun _ _ h _ => absurd rfl h, fun _ _ => rfl⟩

theorem empty_rel : Rel F.empty [] 0 := ⟨rfl, fun _ => rfl⟩

end GoNfsd.Model.FileData
