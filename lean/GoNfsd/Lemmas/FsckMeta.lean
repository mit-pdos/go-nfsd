/- What the format model (Model/Mkfs.lean, tied to the real `makeFs` by the mkfs correspondence of
   C15) marks in the block bitmap, bit by bit: the closed form `metaBlock` used by the structure
   checker (Model/Fsck.lean) is this at the arguments `makeFs` passes (`Props/C04`). -/
import GoNfsd.Model.Mkfs
import GoNfsd.Lemmas.Fsck

namespace GoNfsd.Lemmas.FsckMeta
open GoNfsd.Gen.Consts GoNfsd.Gen.Super GoNfsd.Model.Mkfs

theorem set_getD (blk : Blk) (x i : Nat) :
    (blk.setIfInBounds x true).getD i false = (blk.getD i false || (decide (i = x) && decide (i < blk.size))) := by
  by_cases hs : i < blk.size
  · by_cases hx : x = i
    · simp [Array.getD, hs, hx]
    · simp [Array.getD, hs, hx, Ne.symm hx]
  · simp [Array.getD, hs]

theorem foldl_set_getD (l : List Nat) (blk : Blk) (i : Nat) :
    (l.foldl (fun b bn => b.setIfInBounds bn true) blk).getD i false =
      (blk.getD i false || (decide (i ∈ l) && decide (i < blk.size))) := by
  induction l generalizing blk with
  | nil => simp
  | cons x xs ih =>
    rw [List.foldl_cons, ih, Array.size_setIfInBounds, set_getD]
    simp only [List.mem_cons, Bool.decide_or, Bool.or_assoc, Bool.and_or_distrib_right]

theorem setBits_getD (blk : Blk) (lo hi i : Nat) :
    (setBits blk lo hi).getD i false = (blk.getD i false || (decide (lo ≤ i) && decide (i < hi) && decide (i < blk.size))) := by
  unfold setBits
  rw [foldl_set_getD]
  simp only [GoNfsd.Steps.mem_range'_sub, Bool.decide_and]

theorem zeroBlk_getD (i : Nat) : zeroBlk.getD i false = false := by
  simp [zeroBlk, Array.getD]

theorem zeroBlk_size : zeroBlk.size = NBITBLOCK := by simp [zeroBlk]

theorem setBits_size (blk : Blk) (lo hi : Nat) : (setBits blk lo hi).size = blk.size :=
  List.foldlRecOn (motive := fun b : Blk => b.size = blk.size) _ _ rfl fun _ hb _ _ => Array.size_setIfInBounds.trans hb

theorem lt_iff_div_mod {N x : Nat} (b : Nat) (hx : x < N) : b < x ↔ b / N = 0 ∧ b % N < x := by
  constructor
  · intro h
    have hb : b < N := Nat.lt_trans h hx
    exact ⟨Nat.div_eq_of_lt hb, (Nat.mod_eq_of_lt hb).symm ▸ h⟩
  · rintro ⟨h0, h⟩
    have hb : b < N := (Nat.div_eq_zero_iff.mp h0).resolve_left (Nat.ne_of_gt (Nat.zero_lt_of_lt hx))
    rwa [Nat.mod_eq_of_lt hb] at h

theorem le_iff_div_mod {N : Nat} (a b : Nat) (h : b / N ≤ a / N) : a ≤ b ↔ b / N = a / N ∧ a % N ≤ b % N := by
  have ha := Nat.div_add_mod a N
  have hb := Nat.div_add_mod b N
  constructor
  · intro hab
    have e := Nat.le_antisymm h (Nat.div_le_div_right hab)
    rw [← ha, ← hb, e] at hab
    exact ⟨e, Nat.le_of_add_le_add_left hab⟩
  · rintro ⟨e, hr⟩
    rw [← ha, ← hb, e]
    exact Nat.add_le_add_left hr _

open GoNfsd.Model.Fsck in
/-- what `markAlloc(super, n, m)` marks, for `n` inside the first bitmap block and `m` inside the
    bitmap: the blocks below `n`, and those from `m` up to the end of the bitmap block `m` lies in -/
theorem markAlloc_bit (s : FsSuper) (n m b : Nat) (hn : n < NBITBLOCK) (hm : m / NBITBLOCK < s.NBlockBitmap)
    (hb : b < padEnd m) :
    (applyWrites (markAllocWrites s n m) (fun _ => zeroBlk) (s.BitmapBlockStart + b / NBITBLOCK)).getD (b % NBITBLOCK) false =
      (decide (b < n) || decide (m ≤ b)) := by
  have hr := Nat.mod_lt b (show 0 < NBITBLOCK by decide)
  have hq : b / NBITBLOCK ≤ m / NBITBLOCK :=
    Nat.le_of_lt_succ (Nat.div_lt_of_lt_mul (Nat.mul_comm _ _ ▸ hb))
  unfold markAllocWrites applyWrites
  simp only [List.foldl_cons, List.foldl_nil, FsSuper.BitmapInodeStart, lt_iff_div_mod b hn, le_iff_div_mod m b hq,
    Nat.add_comm _ s.BitmapBlockStart, Nat.add_left_cancel_iff, Nat.add_eq_left, gt_iff_lt, Nat.lt_add_right_iff_pos]
  -- block `q` of the bitmap, bit `r`; `m` lies in block `qm`
  generalize b / NBITBLOCK = q at *
  generalize b % NBITBLOCK = r at *
  generalize m / NBITBLOCK = qm at *
  rw [if_neg (Nat.ne_of_lt (Nat.lt_of_le_of_lt hq hm))]
  by_cases h1 : q = qm
  · subst h1
    rw [if_pos rfl, setBits_getD]
    by_cases h0 : q = 0
    · subst h0
      rw [if_neg (Nat.lt_irrefl 0), setBits_getD, setBits_size, zeroBlk_getD, zeroBlk_size]
      simp [hr]
    · rw [if_pos (Nat.pos_of_ne_zero h0), zeroBlk_getD, zeroBlk_size]
      simp [hr, h0]
  · rw [if_neg h1]
    by_cases h0 : q = 0
    · subst h0
      rw [if_pos rfl, setBits_getD, zeroBlk_getD, zeroBlk_size]
      simp [hr, h1]
    · rw [if_neg h0, zeroBlk_getD]
      simp [h0, h1]

end GoNfsd.Lemmas.FsckMeta
