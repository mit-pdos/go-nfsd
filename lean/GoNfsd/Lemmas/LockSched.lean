import GoNfsd.Model.LockSched
import GoNfsd.Lemmas.Steps

/-! M10c: a step touches one transaction, and `step_tx` says all it does to it: that the invariant is kept, that `cap`
    stays and that the measure `mu` falls are read off it.  And some transaction can always take the step it is waiting
    for (`progress`). -/
namespace GoNfsd.Model.LockSched

theorem sum_map_set {α : Type} (f : α → Nat) (l : List α) (i : Nat) (t x : α) (h : l[i]? = some t) :
    ((l.set i x).map f).sum + f t = (l.map f).sum + f x := by
  induction l generalizing i with
  | nil => cases h
  | cons a rest ih =>
    cases i with
    | zero => cases h; simp only [List.set, List.map, List.sum_cons, Nat.add_comm, Nat.add_left_comm]
    | succ j => simp only [List.set, List.map, List.sum_cons, Nat.add_assoc, ih j h]

/-- a restart lowers the weight: the factor of `L + 1` falls, which pays for a new plan of at most `L` locks -/
theorem restart_lt {L x x' n m : Nat} (hx : x' < x) (hn : n ≤ L) : x' * (L + 1) + n + 1 < x * (L + 1) + m + 1 :=
  Nat.succ_lt_succ (Nat.lt_of_lt_of_le (Nat.add_lt_add_left (Nat.lt_succ_of_le hn) _)
    (Nat.le_trans (Nat.le_of_eq (Nat.succ_mul _ _).symm) (Nat.le_trans (Nat.mul_le_mul_right _ hx) (Nat.le_add_right _ _))))

theorem TxOK_mono (L c c' : Nat) (t : Tx) (h : TxOK L c t) (hc : c ≤ c') : TxOK L c' t :=
  ⟨h.1, h.2.1, h.2.2.1, Nat.le_trans h.2.2.2.1 hc, h.2.2.2.2⟩

/-- What a step does: it replaces one unfinished transaction `t` by `t'`; the commit counter moves
    (by one) exactly when `t'` is finished; `t'` weighs less, and keeps the discipline. -/
theorem step_tx (L : Nat) (s s' : Sys) (i : Nat) (a : Act) (h : step L s i a = some s') :
    ∃ t t', s.txs[i]? = some t ∧ t.fin = false ∧ s'.txs = s.txs.set i t' ∧ s.commits ≤ s'.commits ∧
      s'.commits + live t' = s.commits + 1 ∧ (∀ c, s.commits ≤ c → weight L c t' < weight L c t) ∧
      (TxOK L s.commits t → TxOK L s'.commits t') := by
  revert h
  -- the leaves of `step` that are enabled: 5 acquire, 6 finish, 7 restart charged to a transaction that finished meanwhile,
  -- 8 restart within the budget
  fun_cases step L s i a <;> intro h <;> cases h
  case case5 t ht hf n rest htd hh =>
    obtain ⟨held, todo, fin, seen, free⟩ := t
    obtain rfl : todo = n :: rest := htd
    obtain rfl := Bool.eq_false_iff.mpr hf
    refine ⟨_, _, ht, rfl, rfl, Nat.le_refl _, rfl, fun c _ => Nat.lt_succ_self _, fun ⟨h1, h2, _, h4, h5⟩ => ?_⟩
    have hpw := List.pairwise_cons.mp h1
    refine ⟨hpw.2, fun x hx y hy => ?_, Bool.noConfusion, h4, Nat.le_of_succ_le h5⟩
    rcases List.mem_cons.mp hx with rfl | hx
    · exact hpw.1 y hy
    · exact h2 x hx y (List.mem_cons_of_mem _ hy)
  case case6 t ht hf =>
    obtain ⟨held, todo, fin, seen, free⟩ := t
    obtain rfl := Bool.eq_false_iff.mpr hf
    exact ⟨_, _, ht, rfl, rfl, Nat.le_succ _, rfl, fun c _ => Nat.succ_pos _,
      fun ok => ⟨.nil, fun _ h => (List.not_mem_nil h).elim, fun _ => ⟨rfl, rfl⟩, Nat.le_succ_of_le ok.2.2.2.1, Nat.zero_le _⟩⟩
  case case7 t ht hf plan hp hs =>
    obtain ⟨held, todo, fin, seen, free⟩ := t
    obtain rfl := Bool.eq_false_iff.mpr hf
    exact ⟨_, _, ht, rfl, rfl, Nat.le_refl _, rfl,
      fun c hc => restart_lt (Nat.add_lt_add_right (Nat.sub_lt_sub_left (Nat.lt_of_lt_of_le hs hc) hs) _) hp.2,
      fun _ => ⟨hp.1, fun _ h => (List.not_mem_nil h).elim, Bool.noConfusion, Nat.le_refl _, hp.2⟩⟩
  case case8 t ht hf plan hp _ hfree =>
    obtain ⟨held, todo, fin, seen, free⟩ := t
    obtain rfl := Bool.eq_false_iff.mpr hf
    exact ⟨_, _, ht, rfl, rfl, Nat.le_refl _, rfl,
      fun c _ => restart_lt (Nat.add_lt_add_left (Nat.sub_lt hfree Nat.one_pos) _) hp.2,
      fun ok => ⟨hp.1, fun _ h => (List.not_mem_nil h).elim, Bool.noConfusion, ok.2.2.2.1, hp.2⟩⟩

theorem step_inv (L : Nat) (s s' : Sys) (i : Nat) (a : Act) (hi : Inv L s) (h : step L s i a = some s') :
    Inv L s' := by
  obtain ⟨t, t', hti, _, hset, hc, _, _, hok⟩ := step_tx L s s' i a h
  intro y hy
  rw [hset] at hy
  rcases List.mem_or_eq_of_mem_set hy with hy | rfl
  · exact TxOK_mono L _ _ y (hi y hy) hc
  · exact hok (hi t (List.mem_of_getElem? hti))

theorem step_cap (L : Nat) (s s' : Sys) (i : Nat) (a : Act) (h : step L s i a = some s') : cap s' = cap s := by
  obtain ⟨t, t', hti, hfin, hset, _, hc, _, _⟩ := step_tx L s s' i a h
  have e := sum_map_set live s.txs i t t' hti
  rw [show live t = 1 by rw [live, hfin]; rfl, ← hset] at e
  apply Nat.add_right_cancel (m := 1)
  rw [cap, cap, notfin, notfin, Nat.add_assoc, e, Nat.add_left_comm, hc, Nat.add_left_comm, Nat.add_assoc]

theorem step_mu (L : Nat) (s s' : Sys) (i : Nat) (a : Act) (h : step L s i a = some s') :
    mu L s' < mu L s := by
  obtain ⟨t, t', hti, _, hset, _, _, hw, _⟩ := step_tx L s s' i a h
  rw [mu, mu, step_cap L s s' i a h, hset]
  exact Nat.lt_of_add_lt_add_right (sum_map_set (weight L (cap s)) s.txs i t t' hti ▸
    Nat.add_lt_add_left (hw (cap s) (Nat.le_add_right _ _)) _)

theorem run_inv (L : Nat) (sched : List (Nat × Act)) (s s' : Sys) (hi : Inv L s)
    (h : run L s sched = some s') : Inv L s' :=
  Steps.run_induction (step := fun s p => step L s p.1 p.2) (motive := fun s _ s' => Inv L s → Inv L s')
    (fun _ => rfl) (fun _ _ _ => rfl) (fun _ hi => hi)
    (fun s p s1 _ _ hs ih hi => ih (step_inv L s s1 p.1 p.2 hi hs)) sched s s' h hi

theorem run_mu (L : Nat) (sched : List (Nat × Act)) (s s' : Sys) (h : run L s sched = some s') :
    sched.length + mu L s' ≤ mu L s :=
  Steps.run_induction (step := fun s p => step L s p.1 p.2) (motive := fun s es s' => es.length + mu L s' ≤ mu L s)
    (fun _ => rfl) (fun _ _ _ => rfl) (fun _ => Nat.le_of_eq (Nat.zero_add _))
    (fun s p s1 _ _ hs ih => Nat.succ_add _ _ ▸ Nat.lt_of_le_of_lt ih (step_mu L s s1 p.1 p.2 hs)) sched s s' h

theorem progress (L : Nat) (s : Sys) (hi : Inv L s) (hl : ∃ t ∈ s.txs, t.fin = false) :
    ∃ i t, s.txs[i]? = some t ∧ t.fin = false ∧ (step L s i (wanted t)).isSome = true := by
  by_cases hex : ∃ t ∈ s.txs, t.fin = false ∧ t.todo = []
  · -- somebody has all its locks: it can finish
    obtain ⟨t, htm, htf, htd⟩ := hex
    obtain ⟨i, hti⟩ := List.mem_iff_getElem?.mp htm
    exact ⟨i, t, hti, htf, by simp [wanted, htd, step, hti, htf]⟩
  · -- everybody alive asks for a lock: the one asking for the highest gets it
    obtain ⟨t0, ht0, hf0⟩ := hl
    obtain ⟨t, htA, hmax⟩ := Steps.exists_max (s.txs.filter fun t => t.fin = false) (·.todo.headD 0)
      (List.ne_nil_of_mem (List.mem_filter.mpr ⟨ht0, decide_eq_true hf0⟩))
    obtain ⟨htm, htf⟩ := List.mem_filter.mp htA
    have htf := of_decide_eq_true htf
    obtain ⟨i, hti⟩ := List.mem_iff_getElem?.mp htm
    refine ⟨i, t, hti, htf, ?_⟩
    cases htd : t.todo with
    | nil => exact absurd ⟨t, htm, htf, htd⟩ hex
    | cons n rest =>
      cases hh : heldByAny s.txs n with
      | false => simp [wanted, step, hti, htf, htd, hh]
      | true =>
        obtain ⟨u, hum, hnu⟩ := List.any_eq_true.mp hh
        have hnu := List.contains_iff_mem.mp hnu
        have hu := hi u hum
        have huf : u.fin = false := Bool.eq_false_iff.mpr fun h => by rw [(hu.2.2.1 h).1] at hnu; cases hnu
        have hle := hmax u (List.mem_filter.mpr ⟨hum, decide_eq_true huf⟩)
        cases hud : u.todo with
        | nil => exact absurd ⟨u, hum, huf, hud⟩ hex
        | cons w' r' =>
          rw [htd, hud] at hle
          exact absurd (hu.2.1 n hnu w' (hud ▸ List.mem_cons_self)) (Nat.not_lt_of_le hle)

theorem sum_le_of_all {α : Type} (f : α → Nat) (l : List α) (B : Nat) (h : ∀ x ∈ l, f x ≤ B) :
    (l.map f).sum ≤ l.length * B := by
  induction l with
  | nil => exact Nat.zero_le _
  | cons a rest ih =>
    rw [List.map, List.sum_cons, List.length_cons, Nat.succ_mul, Nat.add_comm]
    exact Nat.add_le_add (ih fun x hx => h x (List.mem_cons_of_mem _ hx)) (h a List.mem_cons_self)

theorem mu_le (L F : Nat) (s : Sys) (h : ∀ t ∈ s.txs, t.free ≤ F ∧ t.todo.length ≤ L) :
    mu L s ≤ s.txs.length * ((cap s + F) * (L + 1) + L + 1) := by
  apply sum_le_of_all
  intro t ht
  unfold weight
  split
  · exact Nat.zero_le _
  · exact Nat.succ_le_succ (Nat.add_le_add
      (Nat.mul_le_mul_right _ (Nat.add_le_add (Nat.sub_le _ _) (h t ht).1)) (h t ht).2)

instance (L c : Nat) (t : Tx) : Decidable (TxOK L c t) := by unfold TxOK; infer_instance

instance (L : Nat) (s : Sys) : Decidable (Inv L s) := by unfold Inv; infer_instance

end GoNfsd.Model.LockSched
