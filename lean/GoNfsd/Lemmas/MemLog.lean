import GoNfsd.Model.MemLog
import GoNfsd.Lemmas.Wal

/-! M9b: absorption is invisible — the relation `Ext` below, kept by a single update (`write1_ext`) and composed along
    transactions and events (`Ext.trans`). -/
namespace GoNfsd.Model.MemLog
open GoNfsd.Model.Wal

variable {α : Type}

theorem applyUpds_snoc (m : Nat → α) (us : List (Upd α)) (u : Upd α) (x : Nat) :
    applyUpds m (us ++ [u]) x = if x = u.addr then u.blk else applyUpds m us x :=
  applyUpds_append m us [u] x

theorem absorbFrom_none (a : Nat) (b : α) (l : List (Upd α)) (h : absorbFrom a b l = none) : ∀ v ∈ l, v.addr ≠ a := by
  fun_induction absorbFrom a b l with
  | case1 => nofun
  | case2 | case3 => cases h
  | case4 u us e hua ih => exact fun v hv => (List.mem_cons.mp hv).elim (· ▸ hua) (ih e v)

theorem absorbFrom_some (a : Nat) (b : α) (l l' : List (Upd α)) (h : absorbFrom a b l = some l') :
    l'.length = l.length ∧ ∀ (m : Nat → α) x, applyUpds m l' x = applyUpds m (l ++ [⟨a, b⟩]) x := by
  fun_induction absorbFrom a b l generalizing l' with
  | case1 | case4 => cases h
  | case2 u us us' e ih =>
    cases h
    obtain ⟨hl, hv⟩ := ih _ e
    exact ⟨congrArg (· + 1) hl, fun m x => hv _ x⟩
  | case3 u us hnone hua =>
    -- `u` is the last update for `a`: nothing behind it touches `a`, and elsewhere it changes nothing
    cases h
    refine ⟨rfl, fun m x => ?_⟩
    simp only [List.cons_append, applyUpds]
    rw [applyUpds_snoc]
    by_cases hx : x = a
    · rw [if_pos hx, hx]; exact applyUpds_untouched _ us a (absorbFrom_none a b us hnone) |>.trans (if_pos rfl)
    · rw [if_neg hx]; exact applyUpds_congr _ _ us x fun _ => by simp only [hua, if_neg hx]

def MemLog.ok (m : MemLog α) : Prop := m.mutable ≤ m.log.length

/-- `m'` is `m` with `us` appended, as far as anybody can tell: the log says about every address
    what it would say had `us` been appended in order (absorption is invisible), and the positions
    below `m.mutable` — those the logger may be writing — are untouched. -/
structure Ext (m m' : MemLog α) (us : List (Upd α)) : Prop where
  ok : m'.ok
  mutable_le : m.mutable ≤ m'.mutable
  take_eq : m'.log.take m.mutable = m.log.take m.mutable
  apply_eq : ∀ (base : Nat → α) x, applyUpds base m'.log x = applyUpds base (m.log ++ us) x

theorem Ext.refl {m : MemLog α} (h : m.ok) : Ext m m [] :=
  ⟨h, Nat.le_refl _, rfl, fun _ _ => by rw [List.append_nil]⟩

theorem Ext.trans {m m' m'' : MemLog α} {us vs : List (Upd α)} (h : Ext m m' us) (h' : Ext m' m'' vs) :
    Ext m m'' (us ++ vs) where
  ok := h'.ok
  mutable_le := Nat.le_trans h.mutable_le h'.mutable_le
  take_eq := by
    have := congrArg (List.take m.mutable) h'.take_eq
    rwa [List.take_take, List.take_take, Nat.min_eq_left h.mutable_le, h.take_eq] at this
  apply_eq base x := by
    rw [h'.apply_eq, ← List.append_assoc, applyUpds_append, applyUpds_append _ _ vs]
    exact congrArg (applyUpds · vs x) (funext (h.apply_eq base))

theorem write1_ext (m : MemLog α) (u : Upd α) (h : m.ok) : Ext m (write1 m u) [u] := by
  unfold MemLog.ok at h
  fun_cases write1 m u
  next tail' hab =>
    obtain ⟨hl, hv⟩ := absorbFrom_some u.addr u.blk _ tail' hab
    have htl : (m.log.take m.mutable).length = m.mutable := List.length_take_of_le h
    have hlen : (m.log.take m.mutable ++ tail').length = m.log.length := by
      rw [List.length_append, htl, hl, List.length_drop, Nat.add_sub_cancel' h]
    refine ⟨Nat.le_trans h (Nat.le_of_eq hlen.symm), Nat.le_refl _, ?_, fun base x => ?_⟩
    · exact (List.take_append_of_le_length (Nat.le_of_eq htl.symm)).trans (List.take_of_length_le (Nat.le_of_eq htl))
    · show applyUpds base (_ ++ tail') x = _
      rw [applyUpds_append, hv, ← applyUpds_append, ← List.append_assoc, List.take_append_drop]
  next =>
    exact ⟨Nat.le_trans h (List.length_append ▸ Nat.le_add_right _ _), Nat.le_refl _, List.take_append_of_le_length h, fun _ _ => rfl⟩

theorem memAppend_ext (m : MemLog α) (txn : List (Upd α)) (h : m.ok) : Ext m (memAppend m txn) txn := by
  induction txn generalizing m with
  | nil => exact .refl h
  | cons u us ih => exact (write1_ext m u h).trans (ih _ (write1_ext m u h).ok)

theorem stepEv_ext (m : MemLog α) (e : Ev α) (h : m.ok) : Ext m (stepEv m e) (txnsOf [e]) := by
  cases e with
  | txn us => show Ext m (memAppend m us) (us ++ []); rw [List.append_nil]; exact memAppend_ext m us h
  | flush => exact ⟨Nat.le_refl _, h, rfl, fun b x => congrArg (applyUpds b · x) (List.append_nil m.log).symm⟩

theorem txnsOf_append (es fs : List (Ev α)) : txnsOf (es ++ fs) = txnsOf es ++ txnsOf fs := by
  induction es with
  | nil => rfl
  | cons e es ih => cases e <;> simp only [List.cons_append, txnsOf, ih, List.append_assoc]

theorem runEv_ext (m : MemLog α) (es : List (Ev α)) (h : m.ok) : Ext m (runEv m es) (txnsOf es) := by
  induction es generalizing m with
  | nil => exact .refl h
  | cons e es ih => exact txnsOf_append [e] es ▸ (stepEv_ext m e h).trans (ih _ (stepEv_ext m e h).ok)

end GoNfsd.Model.MemLog
