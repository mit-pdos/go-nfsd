/-
What a successful RENAME does to the two names: afterwards the new name resolves to the object
the old name denoted, and the old name is gone.
-/
import GoNfsd.Lemmas.Names

namespace GoNfsd.Model.Fs
open GoNfsd.Gen.Consts

theorem notin_liveNames_free (i : Inode) (name : Bytes) : name ∉ liveNames (freeInode i).slots := by
  simp [freeInode, liveNames]

theorem unlinked_live (s : FS) (dino idx cino i k : Nat) (sl : Slot)
    (h : ((unlinked s dino idx cino).get i).slots[k]? = some sl) (hl : sl.inum ≠ 0) : (s.get i).slots[k]? = some sl := by
  rw [unlinked_get] at h
  split at h
  · cases h
  · split at h
    · rename_i e; exact e ▸ (live_set_free h hl).1
    · exact h

theorem renamed (s : FS) (c : Choice) (ffh fname tfh tname : Bytes) (s' : FS) (hN : NU s)
    (h : doRename s c ffh fname tfh tname = (s', .done)) :
    ∃ fd td fino fidx, renameDirs s ffh tfh = some (fd, td) ∧
      lookupIn (s.get fd) fname = some (fino, fidx) ∧
      (lookupIn (s'.get td) tname).map (·.1) = some fino ∧
      (¬ (fd = td ∧ fname = tname) → ¬ (fd = td ∧ (lookupIn (s.get td) tname).map (·.1) = some fino) →
        lookupIn (s'.get fd) fname = none) := by
  have hN' : NU s' := by have := (doRename_eff s c ffh fname tfh tname).nu hN; rwa [h] at this
  obtain ⟨fd, td, fino, fidx, hfd, hlf, hcase⟩ := (doRename_cases s c ffh fname tfh tname).ok (by rw [h]; rfl)
  refine ⟨fd, td, fino, fidx, hfd, hlf, ?_⟩
  rcases hcase with ⟨he, hl, hs⟩ | ⟨s1, d', g, hs⟩
  · cases h.symm.trans hs
    exact ⟨hl, fun _ hn => absurd ⟨he, hl⟩ hn⟩
  · cases h.symm.trans hs
    obtain ⟨_, hg0, hf0⟩ := lookupIn_some_spec _ _ _ _ hlf
    obtain ⟨⟨hdtok, _, hok⟩, hslots, _, hdk', _⟩ := addName_some _ _ _ _ _ g.add
    refine ⟨?_, fun hdiff _ => ?_⟩
    · -- names are unique afterwards too, and the new entry sits in the slot chosen
      rw [get_set_same, lookupIn, hdk', hdtok, if_neg (not_not_intro rfl),
        lookupSlots_of_get (by have := hN' td; rwa [get_set_same] at this) (by rw [hslots, putSlot_get _ _ _ _ hok, if_pos rfl]) hf0]
      rfl
    · -- a live slot named `fname` afterwards is not the new entry: it was in the source directory before the RENAME, in
      -- another slot than the one that held the name
      refine lookupIn_none_of_notin _ _ fun hm => ?_
      obtain ⟨k, sl, hk, hl, hn⟩ := mem_liveNames.mp hm
      have hold : (s1.get fd).slots[k]? = some sl ∧ k ≠ fidx := by
        rw [get_set] at hk
        split at hk
        · rename_i e
          rw [hslots, putSlot_get _ _ _ _ hok] at hk
          split at hk
          · cases hk; exact absurd ⟨e, hn.symm⟩ hdiff
          · rw [← e, get_set_same] at hk; exact live_set_free hk hl
        · rw [get_set_same] at hk; exact live_set_free hk hl
      have hs : (s.get fd).slots[k]? = some sl := by
        rcases g.target with ⟨_, rfl⟩ | ⟨_, _, _, rfl⟩
        · exact hold.1
        · exact unlinked_live _ _ _ _ _ _ _ hold.1 hl
      exact hold.2 (liveNames_inj (hN fd) hs hg0 hl hf0 hn)

end GoNfsd.Model.Fs
