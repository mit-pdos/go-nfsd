import GoNfsd.Model.SlotLock
import GoNfsd.Lemmas.Steps

/-! M8d: no transaction ever obtains, by a lookup under the inode's lock, a slot that holds another
    transaction's uncommitted changes.  Every step is a composition of a few updates of single
    components of the state; the invariant is shown to survive each kind of update once.
    It holds of EVERY run: `Disciplined` is not needed for what a lookup under the lock returns.  What
    the discipline rules out is a pointer kept from a lookup made before the lock was granted (the
    counterexample of `Props/C03`), of which `lookup_never_returns_foreign_taint` does not speak. -/
namespace GoNfsd.Model.SlotLock

theorem upd_apply {β : Type} (f : Nat → β) (k x : Nat) (v : β) : upd f k v x = if x = k then v else f x := rfl

theorem upd_eq_some {β : Type} {f : Nat → Option β} {k x : Nat} {v : Option β} {y : β} (h : upd f k v x = some y) :
    (x = k ∧ v = some y) ∨ (x ≠ k ∧ f x = some y) := by
  rw [upd_apply] at h
  split at h
  · exact .inl ⟨‹_›, h⟩
  · exact .inr ⟨‹_›, h⟩

structure Inv (s : St) : Prop where
  lt_cache : ∀ i k, s.cache i = some k → k < s.next
  lt_ptr : ∀ t i k, s.ptr t i = some k → k < s.next
  lt_taint : ∀ k t, s.tainted k = some t → k < s.next
  cinj : ∀ i j k, s.cache i = some k → s.cache j = some k → i = j
  /-- a CURRENT slot that holds uncommitted changes belongs to an inode locked by the transaction that made them -/
  taint_cur : ∀ k t i, s.tainted k = some t → s.cache i = some k → s.lock i = some t
  /-- a kept pointer that is still somebody's current slot is that of its own inode (else it is an orphan: evicted,
      nobody can get it again) -/
  ptr_own : ∀ t i j k, s.ptr t i = some k → s.cache j = some k → j = i

theorem empty_inv : Inv empty := by
  constructor <;> intros <;> contradiction

namespace Inv
variable {s : St} (h : Inv s)
include h

theorem setLock (i : Nat) (v : Option Nat)
    (hv : ∀ k t, s.tainted k = some t → s.cache i = some k → v = some t) :
    Inv { s with lock := upd s.lock i v } := by
  refine { h with taint_cur := fun k t j ht hc => ?_ }
  show upd s.lock i v j = some t
  rw [upd_apply]
  split
  · subst j; exact hv k t ht hc
  · exact h.taint_cur k t j ht hc

theorem setPtr (t i : Nat) (v : Option Nat) (hv : ∀ k, v = some k → s.cache i = some k) :
    Inv { s with ptr := upd s.ptr t (upd (s.ptr t) i v) } := by
  have key : ∀ t' j k, upd s.ptr t (upd (s.ptr t) i v) t' j = some k → s.ptr t' j = some k ∨ s.cache j = some k := by
    intro t' j k hp
    rw [upd_apply] at hp
    split at hp
    · subst t'
      obtain ⟨rfl, e⟩ | ⟨_, e⟩ := upd_eq_some hp
      · exact .inr (hv k e)
      · exact .inl e
    · exact .inl hp
  exact { h with
    lt_ptr := fun t' j k hp => (key t' j k hp).elim (h.lt_ptr t' j k) (h.lt_cache j k)
    ptr_own := fun t' j j' k hp hc => (key t' j k hp).elim (h.ptr_own t' j j' k · hc) (h.cinj j' j k hc) }

theorem release (t i : Nat) (hc : ∀ k t', s.tainted k = some t' → s.cache i ≠ some k) :
    Inv { s with lock := upd s.lock i none, ptr := upd s.ptr t (upd (s.ptr t) i none) } :=
  (h.setLock i none fun k t' ht hk => absurd hk (hc k t' ht)).setPtr t i none nofun

theorem untaint (f : Nat → Option Nat) (hf : ∀ k t, f k = some t → s.tainted k = some t) :
    Inv { s with tainted := f } :=
  { h with
    lt_taint := fun k t ht => h.lt_taint k t (hf k t ht)
    taint_cur := fun k t i ht => h.taint_cur k t i (hf k t ht) }

theorem taint (t i k : Nat) (hl : s.lock i = some t) (hp : s.ptr t i = some k) :
    Inv { s with tainted := upd s.tainted k (some t) } := by
  refine { h with lt_taint := fun k' t' ht => ?_, taint_cur := fun k' t' j ht hc => ?_ }
  · obtain ⟨rfl, _⟩ | ⟨_, e⟩ := upd_eq_some ht
    · exact h.lt_ptr t i k' hp
    · exact h.lt_taint k' t' e
  · obtain ⟨rfl, e⟩ | ⟨_, e⟩ := upd_eq_some ht
    · -- the slot is current for `j`: then `j` is the inode `t` fetched it for
      cases e
      exact h.ptr_own t i j k' hp hc ▸ hl
    · exact h.taint_cur k' t' j e hc

theorem evict (i : Nat) : Inv { s with cache := upd s.cache i none } := by
  have key : ∀ j k, upd s.cache i none j = some k → j ≠ i ∧ s.cache j = some k :=
    fun j k hc => (upd_eq_some hc).resolve_left nofun
  exact { h with
    lt_cache := fun j k hc => h.lt_cache j k (key j k hc).2
    cinj := fun a b k ha hb => h.cinj a b k (key a k ha).2 (key b k hb).2
    taint_cur := fun k t j ht hc => h.taint_cur k t j ht (key j k hc).2
    ptr_own := fun t j j' k hp hc => h.ptr_own t j j' k hp (key j' k hc).2 }

theorem alloc (i : Nat) :
    Inv { s with cache := upd s.cache i (some s.next), next := s.next + 1 } := by
  have key : ∀ j k, upd s.cache i (some s.next) j = some k → (j = i ∧ k = s.next) ∨ (j ≠ i ∧ s.cache j = some k) :=
    fun j k hj => (upd_eq_some hj).imp_left fun e => ⟨e.1, (Option.some.inj e.2).symm⟩
  have old : ∀ j k, s.cache j = some k → k ≠ s.next := fun j k e => Nat.ne_of_lt (h.lt_cache j k e)
  refine ⟨?_, ?_, ?_, ?_, ?_, ?_⟩
  · intro j k hj
    rcases key j k hj with ⟨_, rfl⟩ | ⟨_, e⟩
    · exact Nat.lt_succ_self _
    · exact Nat.lt_succ_of_lt (h.lt_cache j k e)
  · exact fun t j k hp => Nat.lt_succ_of_lt (h.lt_ptr t j k hp)
  · exact fun k t ht => Nat.lt_succ_of_lt (h.lt_taint k t ht)
  · intro a b k ha hb
    rcases key a k ha with ⟨rfl, rfl⟩ | ⟨_, ea⟩ <;> rcases key b _ hb with ⟨rfl, e⟩ | ⟨_, eb⟩
    · rfl
    · exact absurd rfl (old b _ eb)
    · exact absurd e (old a k ea)
    · exact h.cinj a b k ea eb
  · intro k t j ht hj
    rcases key j k hj with ⟨_, rfl⟩ | ⟨_, e⟩
    · exact absurd (h.lt_taint _ t ht) (Nat.lt_irrefl _)
    · exact h.taint_cur k t j ht e
  · intro t j j' k hp hj
    rcases key j' k hj with ⟨_, rfl⟩ | ⟨_, e⟩
    · exact absurd (h.lt_ptr t j _ hp) (Nat.lt_irrefl _)
    · exact h.ptr_own t j j' k hp e

end Inv

theorem step_inv (s s' : St) (op : Op) (h : Inv s) (hs : step s op = some s') : Inv s' := by
  revert hs
  -- the leaves of `step`: 1 acquire, 3 lookup hit, 4 lookup miss, 5 evict, 6 modify, 9 commit, 11 abort; the others refuse
  fun_cases step s op <;> intro hs <;> cases hs
  case case1 t i hl => exact h.setLock i _ fun k t' ht hc => by rw [h.taint_cur k t' i ht hc] at hl; cases hl
  case case3 t i k hc => exact h.setPtr t i _ fun k e => e ▸ hc
  case case4 t i _ => exact (h.alloc i).setPtr t i _ fun k e => by simp only [upd_apply, if_pos, e]
  case case5 i => exact h.evict i
  case case6 t i hl k hp => exact h.taint t i k hl hp
  case case9 t i hl =>
    refine (h.untaint _ fun k t' e => (Option.ite_none_left_eq_some.mp e).2).release t i fun k t' ht hc => ?_
    -- what is left on the current slot of `i` would be the holder's own, and that is gone
    obtain ⟨hne, ht⟩ := Option.ite_none_left_eq_some.mp ht
    exact hne (Option.some.inj ((h.taint_cur k t' i ht hc).symm.trans hl) ▸ ht)
  case case11 t i _ s1 =>
    dsimp only [s1]
    split
    · rename_i k hc
      refine (h.untaint (upd s.tainted k none) fun k' t' e => ((upd_eq_some e).resolve_left nofun).2).release t i
        fun k' t' ht hc' => ?_
      cases hc.symm.trans hc'
      exact ((upd_eq_some ht).resolve_left nofun).1 rfl
    · refine (h.alloc i).release t i fun k t' ht hc' => ?_
      cases (if_pos rfl).symm.trans hc'
      exact Nat.lt_irrefl _ (h.lt_taint _ t' ht)

theorem run_inv (ops : List Op) (s s' : St) (h : Inv s) (hr : run s ops = some s') : Inv s' :=
  Steps.run_induction (motive := fun s _ s' => Inv s → Inv s') (fun _ => rfl) (fun _ _ _ => rfl) (fun _ h => h)
    (fun s op s1 _ _ hs ih h => ih (step_inv s s1 op h hs)) ops s s' hr h

theorem lookup_never_returns_foreign_taint (s s' : St) (t i : Nat) (h : Inv s) (hl : s.lock i = some t)
    (hs : step s (.lookup t i) = some s') :
    ∃ k, s'.ptr t i = some k ∧ (s'.tainted k = none ∨ s'.tainted k = some t) := by
  dsimp only [step] at hs
  split at hs <;> cases hs
  · rename_i k hc
    refine ⟨k, by simp only [upd_apply, if_pos], ?_⟩
    cases ht : s.tainted k with
    | none => exact .inl rfl
    | some t' => exact .inr (by rw [← hl, h.taint_cur k t' i ht hc])
  · refine ⟨s.next, by simp only [upd_apply, if_pos], .inl ?_⟩
    cases ht : s.tainted s.next with
    | none => rfl
    | some t' => exact absurd (h.lt_taint _ _ ht) (Nat.lt_irrefl _)

end GoNfsd.Model.SlotLock
