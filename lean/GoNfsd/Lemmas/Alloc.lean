/-
The bitmap allocator M2 (go-journal's `alloc.Alloc` as go-nfsd uses it).  One induction along the
cyclic scan (`scan_spec`); read off it: a number handed out was free and is marked afterwards,
nothing else changes; numbers handed out in a row are pairwise distinct; the allocator reports
"none" only when every bit is set; the free count moves by one.
-/
import GoNfsd.Model.Alloc
import GoNfsd.Lemmas.Steps

namespace GoNfsd.Model.Alloc.Alloc

theorem incNext_next_lt (a : Alloc) (h : 0 < a.size) : a.incNext.next < a.size := by
  unfold incNext
  by_cases h' : a.next + 1 ≥ a.size
  · rw [if_pos h']; exact h
  · rw [if_neg h']; exact Nat.lt_of_not_ge h'

theorem incNext_next_mod (a : Alloc) (h : a.next < a.size) : a.incNext.next = (a.next + 1) % a.size := by
  unfold incNext
  by_cases hw : a.next + 1 ≥ a.size
  · rw [if_pos hw, (Nat.le_antisymm h hw : a.next + 1 = _), Nat.mod_self]
  · rw [if_neg hw, Nat.mod_eq_of_lt (Nat.lt_of_not_ge hw)]

theorem round_iff {s start w : Nat} (hs : start < s) (hw : 0 < w) (hws : w ≤ s) :
    (start + w) % s = start ↔ w = s := by
  constructor
  · intro h
    have := Nat.sub_mod_eq_zero_of_mod_eq (h.trans (Nat.mod_eq_of_lt hs).symm)
    rw [Nat.add_sub_cancel_left] at this
    exact Nat.le_antisymm hws (Nat.le_of_dvd hw (Nat.dvd_of_mod_eq_zero this))
  · rintro rfl
    rw [Nat.add_mod_right, Nat.mod_eq_of_lt hs]

/-- What `scan` returns.  It was started at `start`, has gone `v` positions round the bitmap, found them all
    set, and has fuel for the rest of the round.  Either it returns a position whose bit was clear — set now,
    nothing else touched — or 0 with the bitmap as it was, and then EVERY bit is set (bit 0 being set: number 0
    is reserved). -/
theorem scan_spec (bits : List Bool) (fuel : Nat) : ∀ (next start v : Nat), start < bits.length → v < bits.length →
    next = (start + v) % bits.length → bits.length ≤ fuel + v →
    (∀ k, k < v → bits.getD ((start + k) % bits.length) true = true) → bits.getD 0 true = true →
    let r := scan ⟨next, bits⟩ start fuel
    (r.2 ≠ 0 → bits.getD r.2 true = false ∧ r.2 < bits.length ∧ r.1.bits = bits.set r.2 true) ∧
    (r.2 = 0 → r.1.bits = bits ∧ ∀ k, k < bits.length → bits.getD ((start + k) % bits.length) true = true) := by
  induction fuel with
  | zero => exact fun _ _ v _ hv _ hf => absurd hv (Nat.not_lt.mpr (Nat.zero_add v ▸ hf))
  | succ fuel ih =>
    intro next start v hs hv hn hf hvis h0
    have hlt : next < bits.length := hn ▸ Nat.mod_lt _ (Nat.zero_lt_of_lt hv)
    unfold scan
    by_cases hb : bits.getD next true = false
    · rw [if_pos hb]
      exact ⟨fun _ => ⟨hb, hlt, rfl⟩, fun hz => by rw [show next = 0 from hz, h0] at hb; cases hb⟩
    · rw [if_neg hb]
      have hvis' : ∀ k, k < v + 1 → bits.getD ((start + k) % bits.length) true = true := by
        intro k hk
        rcases Nat.lt_succ_iff_lt_or_eq.mp hk with hkv | rfl
        · exact hvis k hkv
        · rw [← hn]; exact (Bool.not_eq_false _).mp hb
      have hinc : (incNext ⟨next, bits⟩).next = (start + (v + 1)) % bits.length :=
        (incNext_next_mod ⟨next, bits⟩ hlt).trans (by
          show (next + 1) % bits.length = _
          rw [hn, Nat.mod_add_mod, Nat.add_assoc])
      have hround := round_iff (w := v + 1) hs (Nat.succ_pos v) hv
      rw [← hinc] at hround
      by_cases hst : (incNext ⟨next, bits⟩).next = start
      · rw [if_pos hst]
        exact ⟨fun h => absurd rfl h, fun _ => ⟨rfl, fun k hk => hvis' k (hround.mp hst ▸ hk)⟩⟩
      · rw [if_neg hst]
        exact ih _ start (v + 1) hs (Nat.lt_of_le_of_ne hv (mt hround.mpr hst)) hinc
          (Nat.succ_add_eq_add_succ fuel v ▸ hf) hvis' h0

theorem allocNum_sound (a : Alloc) (h0 : a.bits.getD 0 true = true) (hpos : 0 < a.size) :
    ((a.allocNum).2 ≠ 0 →
      a.bits.getD (a.allocNum).2 true = false ∧ (a.allocNum).2 < a.size ∧
      (a.allocNum).1.bits = a.bits.set (a.allocNum).2 true) ∧
    ((a.allocNum).2 = 0 → (a.allocNum).1.bits = a.bits) :=
  have hs := incNext_next_lt a hpos
  have h := scan_spec a.bits a.size _ _ 0 hs hpos (Nat.mod_eq_of_lt hs).symm (Nat.le_add_right ..) nofun h0
  ⟨h.1, fun hz => (h.2 hz).1⟩

theorem allocNum_size (a : Alloc) (h0 : a.bits.getD 0 true = true) (hpos : 0 < a.size) :
    (a.allocNum).1.size = a.size := by
  obtain ⟨h1, h2⟩ := allocNum_sound a h0 hpos
  by_cases h : (a.allocNum).2 = 0
  · simp only [size, h2 h]
  · simp only [size, (h1 h).2.2, List.length_set]

/-- an allocation clears no bit -/
theorem allocNum_mono (a : Alloc) (h0 : a.bits.getD 0 true = true) (hpos : 0 < a.size) (n : Nat)
    (h : a.bits.getD n true = true) : (a.allocNum).1.bits.getD n true = true := by
  obtain ⟨h1, h2⟩ := allocNum_sound a h0 hpos
  by_cases hr : (a.allocNum).2 = 0
  · rw [h2 hr]; exact h
  · rw [(h1 hr).2.2, Steps.getD_set _ _ _ _ _ (h1 hr).2.1]
    split
    · rfl
    · exact h

/-- flipping one bit moves the free count by one -/
theorem count_false_set (l : List Bool) (i : Nat) (b : Bool) (hi : i < l.length) (h : l.getD i true = !b) :
    (l.set i b).count false + b.toNat = l.count false + (!b).toNat := by
  induction l generalizing i with
  | nil => cases hi
  | cons c rest ih =>
    cases i with
    | zero =>
      cases h
      cases b <;> simp
    | succ n =>
      simp only [List.set_cons_succ, List.count_cons]
      rw [Nat.add_right_comm, ih n (Nat.lt_of_succ_lt_succ hi) h, Nat.add_right_comm]

theorem allocNum_numFree (a : Alloc) (h0 : a.bits.getD 0 true = true) (hpos : 0 < a.size) :
    (a.allocNum).1.numFree + (if (a.allocNum).2 = 0 then 0 else 1) = a.numFree := by
  obtain ⟨h1, h2⟩ := allocNum_sound a h0 hpos
  by_cases h : (a.allocNum).2 = 0
  · simp only [h, if_true, numFree, h2 h, Nat.add_zero]
  · simp only [h, if_false, numFree, (h1 h).2.2]
    exact count_false_set _ _ true (h1 h).2.1 (h1 h).1

theorem freeNum_numFree (a a' : Alloc) (n : Nat) (h : a.freeNum n = some a') (hb : a.bits.getD n true = true) :
    a'.numFree = a.numFree + 1 := by
  obtain ⟨hc, ⟨⟩⟩ := Option.ite_none_left_eq_some.mp h
  exact count_false_set _ _ false (Nat.lt_of_not_ge (not_or.mp hc).2) hb

theorem freeNum_bits (a a' : Alloc) (n : Nat) (h : a.freeNum n = some a') :
    n ≠ 0 ∧ n < a.size ∧ a'.bits = a.bits.set n false ∧ a'.next = a.next := by
  obtain ⟨hc, ⟨⟩⟩ := Option.ite_none_left_eq_some.mp h
  exact ⟨(not_or.mp hc).1, Nat.lt_of_not_ge (not_or.mp hc).2, rfl, rfl⟩

theorem allocNum_none_means_full (a : Alloc) (h0 : a.bits.getD 0 true = true) (hpos : 0 < a.size)
    (hz : (a.allocNum).2 = 0) : a.numFree = 0 := by
  have hs := incNext_next_lt a hpos
  have hall : ∀ k, k < a.size → a.bits.getD ((a.incNext.next + k) % a.size) true = true :=
    ((scan_spec a.bits a.size _ _ 0 hs hpos (Nat.mod_eq_of_lt hs).symm (Nat.le_add_right ..) nofun h0).2 hz).2
  -- every position is of the form (start + k) % size
  have hevery : ∀ p, p < a.size → a.bits.getD p true = true := by
    intro p hp
    have := hall ((p + a.size - a.incNext.next) % a.size) (Nat.mod_lt _ hpos)
    rwa [Nat.add_mod_mod, Nat.add_sub_of_le (Nat.le_trans (Nat.le_of_lt hs) (Nat.le_add_left ..)),
      Nat.add_mod_right, Nat.mod_eq_of_lt hp] at this
  refine List.count_eq_zero.mpr fun hmem => ?_
  obtain ⟨i, hi, hget⟩ := List.getElem_of_mem hmem
  have := hevery i hi
  rw [List.getD_eq_getElem?_getD, List.getElem?_eq_getElem hi, Option.getD_some, hget] at this
  cases this

theorem allocMany_fresh (k : Nat) (a : Alloc) : a.bits.getD 0 true = true → 0 < a.size →
    (∀ n ∈ (a.allocMany k).2, n ≠ 0 ∧ n < a.size ∧ a.bits.getD n true = false) ∧
    ((a.allocMany k).2).Nodup ∧
    (∀ n, a.bits.getD n true = true → (a.allocMany k).1.bits.getD n true = true) ∧
    (a.numFree ≤ k → ((a.allocMany k).2).length = a.numFree) := by
  -- the leaves of `allocMany`: no round left; the allocator reports none; a number, then the rest
  fun_induction allocMany a k with
  | case1 a => exact fun _ _ => ⟨nofun, .nil, fun _ h => h, fun hk => (Nat.le_zero.mp hk).symm⟩
  | case2 a k a' heq =>
    intro h0 hpos
    have hm := allocNum_mono a h0 hpos
    rw [heq] at hm
    exact ⟨nofun, .nil, hm, fun _ => (allocNum_none_means_full a h0 hpos (by rw [heq])).symm⟩
  | case3 a k a' r heq hr a'' rs hrec ih =>
    intro h0 hpos
    have h1 := (allocNum_sound a h0 hpos).1
    have hsz := allocNum_size a h0 hpos
    have hm := allocNum_mono a h0 hpos
    have hnf := allocNum_numFree a h0 hpos
    rw [heq] at h1 hsz hm hnf
    rw [hrec] at ih
    rw [if_neg hr] at hnf
    obtain ⟨f1, f2, f3⟩ := h1 hr
    obtain ⟨i1, i2, i3, i4⟩ := ih (hm 0 h0) (hsz ▸ hpos)
    refine ⟨fun n hn => ?_, List.nodup_cons.2 ⟨fun hmem => ?_, i2⟩, fun n hn => i3 n (hm n hn),
      fun hk => (congrArg (· + 1) (i4 (Nat.le_of_succ_le_succ (Nat.le_trans (Nat.le_of_eq hnf) hk)))).trans hnf⟩
    · rcases List.mem_cons.mp hn with rfl | hn
      · exact ⟨hr, f2, f1⟩
      · obtain ⟨j1, j2, j3⟩ := i1 n hn
        exact ⟨j1, hsz ▸ j2, Bool.eq_false_iff.mpr fun h => by rw [hm n h] at j3; cases j3⟩
    · have := (i1 r hmem).2.2
      rw [f3, Steps.getD_set _ _ _ _ _ f2, if_pos rfl] at this
      cases this

end GoNfsd.Model.Alloc.Alloc
