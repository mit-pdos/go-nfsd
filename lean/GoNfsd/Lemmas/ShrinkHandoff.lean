import GoNfsd.Model.ShrinkHandoff

/-! M15 under the policy `always`: every request starts a thread of its own, and a thread leaves the loop only in the
    round that takes its inode off the pending list — so whatever is pending still has a thread inside the loop. -/
namespace GoNfsd.Model.ShrinkHandoff

/-- every pending inode has a thread that is still going to look at it -/
def Inv (s : St) : Prop := ∀ i ∈ s.pending, ⟨i, true⟩ ∈ s.threads

theorem step_inv (s : St) (e : Ev) (h : Inv s) : Inv (step always s e) := by
  -- the leaves of `step` that change the state: 1 request, 3 a thread's last round, 6 help, 8 exit
  fun_cases step always s e
  case case1 i =>
    intro j hj
    by_cases hji : j = i
    · exact List.mem_append_right _ (hji ▸ .head _)
    · exact List.mem_append_left _ (h j (iteInduction (motive := (j ∈ · → j ∈ s.pending)) (fun _ => id)
        (fun _ hj => (List.mem_cons.mp hj).resolve_left hji) hj))
  case case3 k more t hk hl _ =>
    -- `t` has had its last look at its inode, which is done: whoever looks at another inode is another thread
    intro j hj
    obtain ⟨hj, hne⟩ := List.mem_filter.mp hj
    obtain ⟨x, hx⟩ := List.mem_iff_getElem?.mp (h j hj)
    have hkx : k ≠ x := fun e => by cases hk.symm.trans (e ▸ hx); simp at hne
    exact List.mem_iff_getElem?.mpr ⟨x, (List.getElem?_set_ne hkx).trans hx⟩
  case case6 i => exact fun j hj => h j (List.mem_filter.mp hj).1
  case case8 k t hk hl =>
    -- the thread that goes is past its last look: not one the invariant counts on
    intro j hj
    obtain ⟨x, hx⟩ := List.mem_iff_getElem?.mp (h j hj)
    have hxk : x ≠ k := fun e => by cases hk.symm.trans (e ▸ hx); exact absurd rfl hl
    exact List.mem_eraseIdx_iff_getElem?.mpr ⟨x, hxk, hx⟩
  all_goals exact h

theorem run_inv (s : St) (evs : List Ev) (h : Inv s) : Inv (run always s evs) :=
  List.foldlRecOn evs _ h fun s hs e _ => step_inv s e hs

theorem init_inv : Inv {} := nofun

end GoNfsd.Model.ShrinkHandoff
