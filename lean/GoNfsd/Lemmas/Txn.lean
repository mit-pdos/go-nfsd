/- The protocol invariant of the inode-cache model M8 (`Coherent`: a cached inode is what the open transaction reads for it;
   only inodes the transaction holds have buffered writes), kept by every step.  Used by C10 (coherence at quiescent points)
   and C09 (an aborted transaction leaves no trace). -/
import GoNfsd.Model.Txn

namespace GoNfsd.Model.Txn
variable {α : Type}

theorem step_coherent (s : St α) (op : TOp α) (h : Coherent s) : Coherent (step s op) := by
  obtain ⟨h1, h2⟩ := h
  -- a write to the buffer goes to an inode the transaction holds
  have hbuf (i : Nat) (x : α) (hown : i ∈ s.owned) (j : Nat) (hb : (if j = i then some x else s.buf j) ≠ none) :
      j ∈ s.owned := by
    split at hb
    · next hj => exact hj ▸ hown
    · exact h2 j hb
  -- load; modify by the holder (inode cached / evicted meanwhile) and by someone else (no effect); evict; commit; abort
  fun_cases step s op
  case case1 i =>
    refine ⟨fun j v hv => ?_, fun j hb => List.mem_cons_of_mem _ (h2 j hb)⟩
    dsimp only at hv
    split at hv
    · next hj =>
      subst hj
      split at hv
      · next w hc => exact h1 j v (hc.trans hv)
      · exact (Option.some.inj hv).symm
    · exact h1 j v hv
  case case2 i f hown w hc =>
    refine ⟨fun j v hv => ?_, hbuf i _ hown⟩
    dsimp only [St.read] at hv ⊢
    split at hv
    · next hj => rw [if_pos hj]; exact (Option.some.inj hv).symm
    · next hj => rw [if_neg hj]; exact h1 j v hv
  case case3 i f hown hc =>
    refine ⟨fun j v hv => ?_, hbuf i _ hown⟩
    dsimp only [St.read] at hv ⊢
    by_cases hj : j = i
    · rw [hj, hc] at hv; cases hv
    · rw [if_neg hj]; exact h1 j v hv
  case case4 => exact ⟨h1, h2⟩
  case case5 i =>
    refine ⟨fun j v hv => ?_, h2⟩
    dsimp only at hv
    split at hv
    · cases hv
    · exact h1 j v hv
  case case6 => exact ⟨fun j v hv => h1 j v hv, fun j hb => absurd rfl hb⟩
  case case7 =>
    refine ⟨fun j v hv => ?_, fun j hb => absurd rfl hb⟩
    dsimp only at hv
    split at hv
    · cases hv
    · next hj =>
      have hb : s.buf j = none := Classical.byContradiction fun hne => hj (h2 j hne)
      have := h1 j v hv
      rwa [St.read, hb] at this

theorem run_coherent (s : St α) (ops : List (TOp α)) (h : Coherent s) : Coherent (run s ops) := by
  induction ops generalizing s with
  | nil => exact h
  | cons op rest ih => exact ih _ (step_coherent s op h)

theorem fresh_coherent (disk : Nat → α) : Coherent (fresh disk) :=
  ⟨by intro i v h; simp [fresh] at h, by intro i h; simp [fresh] at h⟩

/-- with nothing buffered, what the transaction reads is the disk: every cached inode equals it -/
theorem Coherent.quiescent {s : St α} (h : Coherent s) (hq : Quiescent s) (i : Nat) (v : α)
    (hc : s.cache i = some v) : v = s.disk i := by
  have := h.1 i v hc
  rwa [St.read, hq.1 i] at this

theorem run_append (s : St α) (a b : List (TOp α)) : run s (a ++ b) = run (run s a) b := by
  induction a generalizing s with
  | nil => rfl
  | cons o r ih => exact ih _

end GoNfsd.Model.Txn
