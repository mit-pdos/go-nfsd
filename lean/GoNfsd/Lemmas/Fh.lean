/- File handles of M6: little-endian digits read back give the number modulo 256^k (`leNat_digits`, any width), hence
   `parseFh (mkFh i g) = (i, g)` below 2^64. -/
import GoNfsd.Model.Fs

namespace GoNfsd.Model.Fs

@[simp] theorem le64_length (n : Nat) : (le64 n).length = 8 := by simp [le64]

theorem leNat_digits (k n : Nat) :
    leNat ((List.range k).map fun i => UInt8.ofNat (n / 256 ^ i % 256)) = n % 256 ^ k := by
  induction k generalizing n with
  | zero => simp [leNat, Nat.mod_one]
  | succ k ih =>
    have hstep : ∀ i, n / 256 ^ (i + 1) = n / 256 / 256 ^ i := fun i => by
      rw [Nat.pow_succ', Nat.div_div_eq_div_mul]
    rw [List.range_succ_eq_map, List.map_cons, List.map_map]
    simp only [leNat, List.foldr_cons, Function.comp_def, hstep] at ih ⊢
    rw [ih (n / 256), Nat.pow_succ', Nat.mod_mul]
    simp

theorem leNat_le64 (n : Nat) (h : n < 2 ^ 64) : leNat (le64 n) = n := by
  rw [le64, leNat_digits, Nat.mod_eq_of_lt (by simpa using h)]

theorem parseFh_mkFh (i g : Nat) (hi : i < 2 ^ 64) (hg : g < 2 ^ 64) : parseFh (mkFh i g) = (i, g) := by
  have h8 : List.take 8 (le64 g) = le64 g := List.take_of_length_le (by simp)
  simp [parseFh, mkFh, leNat_le64 _ hi, leNat_le64 _ hg, h8]

end GoNfsd.Model.Fs
