/- The bridge from the pointer-tree model (M7 / M7m: a store of index blocks, one root list per
   file, invariant `MWF`) to the IMAGES the structure checker reads (`Model/Fsck`): the blocks the
   checker attributes to an inode (`Fsck.owned`, computed from the image's index blocks) are exactly
   the non-null pointers of the model's tree, position by position; hence the checker's "one owner
   per block" (`chkOneOwner`) holds on every image of a state that satisfies `MWF`. -/
import GoNfsd.Lemmas.MultiTree
import GoNfsd.Lemmas.ShrinkTree
import GoNfsd.Model.Fsck

namespace GoNfsd.Model.BlockMap
open GoNfsd.Gen.Consts GoNfsd.Model.Fsck

/-- the non-null entries (index, pointer) of an index block, as the harness exports them -/
def indEntries (st : Store) (b : Nat) : List (Nat × Nat) :=
  (List.range NBLKBLK).filterMap fun i => if st b i = 0 then none else some (i, st b i)

/-- every position of a pointer tree, in the order the checker walks it -/
def posList : List Pos :=
  (List.range NDIRECT).map Pos.dir ++ (Pos.iroot :: (List.range NBLKBLK).map Pos.ileaf) ++
    (Pos.droot :: (List.range NBLKBLK).flatMap fun j => Pos.dmid j :: (List.range NBLKBLK).map (Pos.dleaf j))

def nz : List Nat → List Nat
  | [] => []
  | x :: r => if x = 0 then nz r else x :: nz r

def nzp : List (Nat × Nat) → List (Nat × Nat)
  | [] => []
  | x :: r => if x.2 = 0 then nzp r else x :: nzp r

/-! `nz` and `nzp` are filters: what is needed of them is in the library. -/

theorem nz_eq_filter (l : List Nat) : nz l = l.filter (· != 0) := by
  fun_induction nz l <;> simp [*]

theorem nzp_eq_filter (l : List (Nat × Nat)) : nzp l = l.filter (·.2 != 0) := by
  fun_induction nzp l <;> simp [*]

theorem mem_nz {l : List Nat} {x : Nat} : x ∈ nz l ↔ x ∈ l ∧ x ≠ 0 := by
  simp [nz_eq_filter]

theorem nz_sublist (l : List Nat) : (nz l).Sublist l := nz_eq_filter l ▸ List.filter_sublist

theorem nzp_append (a b : List (Nat × Nat)) : nzp (a ++ b) = nzp a ++ nzp b := by
  simp [nzp_eq_filter]

theorem nzp_snd (l : List (Nat × Nat)) : (nzp l).map (·.2) = nz (l.map (·.2)) := by
  rw [nzp_eq_filter, nz_eq_filter, List.filter_map]; rfl

theorem flatMap_nzp {β : Type} (l : List (Nat × Nat)) (g : Nat × Nat → List β) (hg : ∀ x, x.2 = 0 → g x = []) :
    (nzp l).flatMap g = l.flatMap g := by
  fun_induction nzp l <;> simp [*]

theorem nz_map_nodup {α : Type} (f : α → Nat) (l : List α) (hn : l.Nodup)
    (hinj : ∀ x ∈ l, ∀ y ∈ l, f x ≠ 0 → f x = f y → x = y) : (nz (l.map f)).Nodup := by
  rw [nz_eq_filter, List.filter_map, List.Nodup, List.pairwise_map]
  refine (hn.filter _).imp_of_mem fun {a b} ha hb hab he => ?_
  rw [List.mem_filter] at ha hb
  exact hab (hinj a ha.1 b hb.1 (by simpa using ha.2) he)

theorem indEntries_eq (st : Store) (b : Nat) :
    indEntries st b = nzp ((List.range NBLKBLK).map fun i => (i, st b i)) := by
  unfold indEntries
  induction List.range NBLKBLK with
  | nil => rfl
  | cons i r ih => by_cases h : st b i = 0 <;> simp [nzp, h, ih]

/-- the image's index blocks are the model's, for the index blocks of this file -/
def IndOK (img : Image) (st : Store) (blks : List Nat) : Prop :=
  (blks.getD INDIRECT 0 ≠ 0 → indOf img (blks.getD INDIRECT 0) = indEntries st (blks.getD INDIRECT 0)) ∧
  (blks.getD DINDIRECT 0 ≠ 0 → indOf img (blks.getD DINDIRECT 0) = indEntries st (blks.getD DINDIRECT 0) ∧
    ∀ j, j < NBLKBLK → st (blks.getD DINDIRECT 0) j ≠ 0 →
      indOf img (st (blks.getD DINDIRECT 0) j) = indEntries st (st (blks.getD DINDIRECT 0) j))

def pairOf (o : Own) : Nat × Nat := (o.minIdx, o.blk)

theorem ownDirectFrom_pairs (l : List Nat) (i : Nat) : (ownDirectFrom l i).map pairOf =
    nzp ((List.range l.length).map fun k => (i + k, l.getD k 0)) := by
  fun_induction ownDirectFrom l i with
  | case1 => rfl
  | case2 p ps i hp ih =>
    simp only [Nat.add_right_comm i 1] at ih
    rw [List.length_cons, List.range_succ_eq_map, List.map_cons, List.map_cons, List.map_map, nzp,
      if_neg (show ¬ (i + 0, (p :: ps).getD 0 0).2 = 0 from hp)]
    exact congrArg _ ih
  | case3 p ps i hp ih =>
    simp only [Nat.add_right_comm i 1] at ih
    rw [List.length_cons, List.range_succ_eq_map, List.map_cons, List.map_map, nzp,
      if_pos (show (i + 0, (p :: ps).getD 0 0).2 = 0 from Classical.not_not.1 hp)]
    exact ih

/-- an index block with its cells: the walk of `ownInd` also when the block is missing -/
theorem ownInd_pairs (img : Image) (st : Store) (r base : Nat) (h : r ≠ 0 → indOf img r = indEntries st r) :
    (ownInd img r base).map pairOf =
      nzp ((base, r) :: (List.range NBLKBLK).map fun i => (base + i, if r = 0 then 0 else st r i)) := by
  fun_cases ownInd img r base
  case case1 hr =>
    rw [hr, nzp_eq_filter]
    refine (List.filter_eq_nil_iff.2 fun x hx => ?_).symm
    rcases List.mem_cons.1 hx with rfl | hx
    · exact Bool.false_ne_true
    · obtain ⟨i, _, rfl⟩ := List.mem_map.1 hx; exact Bool.false_ne_true
  case case2 hr =>
    simp only [hr, if_false, h hr, indEntries_eq, nzp_eq_filter, List.map_cons, List.map_map, List.filter_map]
    rw [List.filter_cons_of_pos (by simpa using hr), List.filter_map]
    rfl

theorem flatMap_congr_left {α β : Type} {l : List α} {f g : α → List β} (h : ∀ a ∈ l, f a = g a) :
    l.flatMap f = l.flatMap g := by
  rw [List.flatMap_def, List.flatMap_def, List.map_congr_left h]

theorem ownDind_pairs (img : Image) (st : Store) (blks : List Nat) (h : IndOK img st blks) :
    (ownDind img (blks.getD DINDIRECT 0) (NDIRECT + NBLKBLK)).map pairOf =
      nzp ((Pos.droot :: (List.range NBLKBLK).flatMap fun j => Pos.dmid j :: (List.range NBLKBLK).map (Pos.dleaf j)).map
        fun p => (firstBn p, ptr st blks p)) := by
  have h2 := h.2
  unfold ptr
  generalize blks.getD DINDIRECT 0 = d at *
  simp only [List.map_cons, List.map_flatMap, List.map_map, Function.comp_def, ptrR, nzp_eq_filter]
  fun_cases ownDind img d (NDIRECT + NBLKBLK)
  case case1 hd =>
    refine (List.filter_eq_nil_iff.mpr ?_).symm
    simp only [List.mem_cons, List.mem_flatMap, List.mem_map, hd, if_true]
    rintro _ (rfl | ⟨_, _, rfl | ⟨_, _, rfl⟩⟩) <;> simp
  case case2 hd =>
    obtain ⟨hroot, hmid⟩ := h2 hd
    simp only [hd, if_false, hroot, indEntries_eq, List.map_cons, List.map_flatMap]
    -- a middle cell that is null is skipped by the checker and adds only null pointers to the tree
    rw [flatMap_nzp _ _ (fun x hx => by simp [ownInd, hx]), List.flatMap_map,
      List.filter_cons_of_pos (by simpa using hd), List.filter_flatMap]
    refine congrArg _ (flatMap_congr_left fun j hj => ?_)
    rw [ownInd_pairs img st _ _ (hmid j (List.mem_range.mp hj)), nzp_eq_filter, Nat.mul_comm j]
    rfl

/-- THE CHECKER'S VIEW OF AN INODE IS THE POINTER TREE, with the file-block index of every position -/
theorem owned_pairs (img : Image) (st : Store) (ino : DInode) (hl : ino.blks.length = NDIRECT + 2)
    (h : IndOK img st ino.blks) :
    (owned img ino).map pairOf = nzp (posList.map fun p => (firstBn p, ptr st ino.blks p)) := by
  unfold owned posList
  rw [List.map_append, List.map_append, List.map_append, List.map_append, nzp_append, nzp_append,
    ownDind_pairs img st _ h, ownInd_pairs img st _ _ h.1, ownDirectFrom_pairs, List.length_take,
    Nat.min_eq_left (hl ▸ Nat.le_add_right _ _)]
  refine congr (congrArg _ (congr (congrArg _ (congrArg nzp ?_)) (congrArg nzp ?_))) rfl
  · rw [List.map_map]
    refine List.map_congr_left fun k hk => ?_
    rw [Nat.zero_add, List.getD_eq_getElem?_getD, List.getElem?_take_of_lt (List.mem_range.mp hk)]
    rfl
  · rw [List.map_cons, List.map_map]
    rfl

theorem owned_blk (img : Image) (st : Store) (ino : DInode) (hl : ino.blks.length = NDIRECT + 2)
    (h : IndOK img st ino.blks) :
    (owned img ino).map (·.blk) = nz (posList.map (ptr st ino.blks)) := by
  have := congrArg (List.map (·.2)) (owned_pairs img st ino hl h)
  rwa [List.map_map, nzp_snd, List.map_map] at this

theorem posList_valid : ∀ p ∈ posList, p.valid := by
  intro p hp
  unfold posList at hp
  simp only [List.mem_append, List.mem_map, List.mem_range, List.mem_cons, List.mem_flatMap] at hp
  rcases hp with (⟨i, hi, rfl⟩ | (rfl | ⟨i, hi, rfl⟩)) | (rfl | ⟨j, hj, (rfl | ⟨i, hi, rfl⟩)⟩)
  · exact hi
  · trivial
  · exact hi
  · trivial
  · exact hj
  · exact ⟨hj, hi⟩

theorem owned_below_bound (img : Image) (st : Store) (ino : DInode) (hl : ino.blks.length = NDIRECT + 2)
    (h : IndOK img st ino.blks) (he : EmptyFrom st ino.blks (Fsck.bound ino)) :
    (owned img ino).all (fun o => decide (o.minIdx < Fsck.bound ino)) = true := by
  rw [List.all_eq_true]
  intro o ho
  have hm : pairOf o ∈ (owned img ino).map pairOf := List.mem_map_of_mem ho
  rw [owned_pairs img st ino hl h, nzp_eq_filter, List.mem_filter, List.mem_map] at hm
  obtain ⟨⟨p, hp, hpe⟩, h2⟩ := hm
  rw [← hpe] at h2
  rw [decide_eq_true_eq, show o.minIdx = firstBn p from (congrArg Prod.fst hpe).symm]
  exact Nat.lt_of_not_le fun hge => by simp [he p (posList_valid p hp) hge] at h2

theorem posList_nodup : posList.Nodup := by
  unfold posList
  have hD : (List.range NDIRECT).Nodup := List.nodup_range
  have hR : (List.range NBLKBLK).Nodup := List.nodup_range
  generalize List.range NBLKBLK = R at *
  generalize List.range NDIRECT = D at *
  have hC : (R.flatMap fun j => Pos.dmid j :: R.map (Pos.dleaf j)).Nodup := by
    rw [List.Nodup, List.pairwise_flatMap]
    constructor
    · intro j _
      refine List.nodup_cons.mpr ⟨by simp, hR.map _ fun a b hab h => hab (by injection h)⟩
    · refine hR.imp ?_
      intro j1 j2 hne x hx y hy hxy
      simp only [List.mem_cons, List.mem_map] at hx hy
      rcases hx with rfl | ⟨i1, _, rfl⟩ <;> rcases hy with rfl | ⟨i2, _, rfl⟩ <;> cases hxy <;> exact hne rfl
  rw [List.nodup_append, List.nodup_append]
  refine ⟨⟨hD.map _ fun a b hab h => hab (by injection h), ?_, ?_⟩, ?_, ?_⟩
  · exact List.nodup_cons.mpr ⟨by simp, hR.map _ fun a b hab h => hab (by injection h)⟩
  · intro a ha b hb
    simp only [List.mem_map, List.mem_cons] at ha hb
    obtain ⟨i, _, rfl⟩ := ha
    rcases hb with rfl | ⟨k, _, rfl⟩ <;> intro h <;> cases h
  · exact List.nodup_cons.mpr ⟨by simp, hC⟩
  · intro a ha b hb
    simp only [List.mem_append, List.mem_map, List.mem_cons, List.mem_flatMap] at ha hb
    rcases ha with ⟨i, _, rfl⟩ | rfl | ⟨i, _, rfl⟩ <;>
      rcases hb with rfl | ⟨j, _, (rfl | ⟨k, _, rfl⟩)⟩ <;> intro h <;> cases h

/-- the blocks a file uses as index blocks (0: none) -/
def indexBlocks (st : Store) (blks : List Nat) : List Nat :=
  blks.getD INDIRECT 0 :: blks.getD DINDIRECT 0 :: (List.range NBLKBLK).map (st (blks.getD DINDIRECT 0))

/-- the image of the files `(inode number, root list)` over store `st`: the inodes with their root
    lists and, for every index block, its non-null entries — what the harness exports -/
def imageOf (st : Store) (files : List (Nat × List Nat)) : Image :=
  { (default : Image) with
    inodes := files.map fun f => { inum := f.1, kind := 1, nlink := 1, gen := 0, size := 0, shrink := 0, blks := f.2 }
    ind := (files.flatMap fun f => indexBlocks st f.2).map fun b => (b, indEntries st b) }

theorem indOf_listed (img : Image) (g : Nat → List (Nat × Nat)) (l : List Nat) (hl : img.ind = l.map fun b => (b, g b))
    (b : Nat) (hb : b ∈ l) : indOf img b = g b := by
  unfold indOf
  rw [hl, List.find?_map]
  cases h : l.find? ((fun x => x.1 == b) ∘ fun b => (b, g b)) with
  | none => exact (List.find?_eq_none.1 h b hb (beq_self_eq_true b)).elim
  | some x => exact congrArg g (eq_of_beq (List.find?_some (p := _ ∘ _) h))

theorem imageOf_IndOK (st : Store) (files : List (Nat × List Nat)) (f : Nat × List Nat) (hf : f ∈ files) :
    IndOK (imageOf st files) st f.2 := by
  have hin : ∀ b ∈ indexBlocks st f.2, indOf (imageOf st files) b = indEntries st b :=
    fun b hb => indOf_listed _ _ _ rfl b (List.mem_flatMap.mpr ⟨f, hf, hb⟩)
  refine ⟨fun _ => hin _ (List.mem_cons_self ..), fun _ => ⟨hin _ (List.mem_cons_of_mem _ (List.mem_cons_self ..)), ?_⟩⟩
  intro j hj _
  refine hin _ (List.mem_cons_of_mem _ (List.mem_cons_of_mem _ ?_))
  exact List.mem_map.mpr ⟨j, List.mem_range.mpr hj, rfl⟩

/-- what the image of a model state owns: file by file, the non-null pointers of the tree -/
theorem allOwned_imageOf (st : Store) (roots : Nat → List Nat) (hl : ∀ a, (roots a).length = NDIRECT + 2)
    (files : List Nat) :
    allOwned (imageOf st (files.map fun a => (a, roots a))) =
      files.flatMap fun a => nz (posList.map (ptr st (roots a))) := by
  show ((files.map fun a => (a, roots a)).map _).flatMap _ = _
  rw [List.flatMap_map, List.flatMap_map]
  exact flatMap_congr_left fun a ha =>
    owned_blk _ st _ (hl a) (imageOf_IndOK st _ (a, roots a) (List.mem_map_of_mem ha))

theorem imageOf_one_owner (s : S) (roots : Nat → List Nat) (h : MWF s roots) (files : List Nat) (hn : files.Nodup) :
    chkOneOwner (imageOf s.st (files.map fun a => (a, roots a))) = true := by
  rw [chkOneOwner, decide_eq_true_eq, allOwned_imageOf s.st roots h.len, List.Nodup, List.pairwise_flatMap]
  -- within a file and across files, `MWF.inj`
  refine ⟨fun a _ => nz_map_nodup _ _ posList_nodup fun x hx y hy hne he =>
    (h.inj a a x y (posList_valid x hx) (posList_valid y hy) hne he).2, hn.imp fun hab x hx y hy hxy => ?_⟩
  obtain ⟨hx, hx0⟩ := mem_nz.1 hx
  obtain ⟨p, hp, rfl⟩ := List.mem_map.1 hx
  obtain ⟨q, hq, rfl⟩ := List.mem_map.1 (mem_nz.1 hy).1
  exact hab (h.inj _ _ p q (posList_valid p hp) (posList_valid q hq) hx0 hxy).1

end GoNfsd.Model.BlockMap
