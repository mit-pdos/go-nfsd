import GoNfsd.Lemmas.MultiTree
import GoNfsd.Lemmas.ShrinkTree

/-! M7 for many files, the other half: truncating one file (the run of `Shrink`) keeps "no block
    has two owners" across files, moves no pointer of another file, and what it frees belongs to
    nobody and is all zeros — so the allocator may hand it to any file (`mrecycle`). -/
namespace GoNfsd.Model.BlockMap
open GoNfsd.Gen.Consts

theorem shrinkTo_fileStep (s : S) (blks : List Nat) (T N : Nat) (h : WFB s blks) (hN : N ≤ MAXBLKS)
    (hemp : EmptyFrom s.st blks N) :
    FileStep s (shrinkTo s blks T N).1 blks (shrinkTo s blks T N).2 := by
  have hc := shrinkTo_clears T N s blks h.len h.inj hN hemp
  refine ⟨(shrinkTo_wf s blks T N h hN hemp).1, fun p hp hne => ?_, fun y x c => (hc.touch y x c).imp_right Or.inl,
    fun x hx => hc.allocs ▸ hx⟩
  by_cases ht : T ≤ firstBn p
  · exact absurd (hc.zero p hp ht) hne
  · exact Or.inl (hc.keep p hp ht)

theorem mshrink_ok (s : S) (roots : Nat → List Nat) (a T N : Nat) (h : MWF s roots)
    (hN : N ≤ MAXBLKS) (hemp : EmptyFrom s.st (roots a) N) :
    MWF (shrinkTo s (roots a) T N).1 (setRoots roots a (shrinkTo s (roots a) T N).2) ∧
    (∀ b, b ≠ a → ∀ q, q.valid → ptr (shrinkTo s (roots a) T N).1.st (roots b) q = ptr s.st (roots b) q) ∧
    (∀ x, x ∈ (shrinkTo s (roots a) T N).1.freed → x ∉ s.freed →
      x ≠ 0 ∧ (∀ f p, p.valid → ptr (shrinkTo s (roots a) T N).1.st (setRoots roots a (shrinkTo s (roots a) T N).2 f) p ≠ x) ∧
      ∀ i, (shrinkTo s (roots a) T N).1.st x i = 0) := by
  have hs := shrinkTo_fileStep s (roots a) T N (h.file a) hN hemp
  refine ⟨h.step hs, hs.frame h, fun x hx hnew => ?_⟩
  have hc := shrinkTo_clears T N s (roots a) (h.len a) (h.file a).inj hN hemp
  obtain ⟨hx0, q, hq, hTq, hpq⟩ := ((hc.freed x).1 hx).resolve_left hnew
  refine ⟨hx0, fun f p hp e => ?_, ((shrinkTo_zeroes T N s (roots a)).freed x hx).resolve_left hnew⟩
  -- a pointer to `x` afterwards is an old one, hence the pointer at `q` of this file, which was cleared
  rcases hs.origin h f p hp (e ▸ hx0) with e1 | ⟨_, m⟩
  · obtain ⟨rfl, rfl⟩ := h.inj f a p q hp hq (e1 ▸ e ▸ hx0) ((e1.symm.trans e).trans hpq.symm)
    rw [setRoots_self, hc.zero p hp hTq] at e
    exact hx0 e.symm
  · exact (h.fresh x (e ▸ m) hx0).1 a q hq hpq

theorem mrecycle (s : S) (roots : Nat → List Nat) (L : List Nat) (h : MWF s roots)
    (hL : ∀ x ∈ L, x ≠ 0 → (∀ f p, p.valid → ptr s.st (roots f) p ≠ x) ∧ ∀ i, s.st x i = 0)
    (hd : DistinctNZ (s.allocs ++ L)) :
    MWF { s with allocs := s.allocs ++ L } roots :=
  ⟨h.len, h.inj, fun x hx hx0 => (List.mem_append.mp hx).elim (h.fresh x · hx0) (hL x · hx0), hd⟩

inductive MOp where
  | map (a bn : Nat)             -- `bmap` of block `bn` of file `a`
  | shrink (a T N : Nat)         -- the run of `Shrink` on file `a` from `N` down to `T`
  | recycle (L : List Nat)       -- the allocator hands out again what `L` lists

def mapply (sr : S × (Nat → List Nat)) : MOp → S × (Nat → List Nat)
  | .map a bn => mstep sr (a, bn)
  | .shrink a T N => ((shrinkTo sr.1 (sr.2 a) T N).1, setRoots sr.2 a (shrinkTo sr.1 (sr.2 a) T N).2)
  | .recycle L => ({ sr.1 with allocs := sr.1.allocs ++ L }, sr.2)

/-- what each step needs: an addressable block; a truncation that starts at (or above) the file's
    bookkeeping bound (`InoOK` keeps that bound for every file: `Lemmas/InoOps`); a recycled block
    that no file owns, that is all zeros and that is not in the allocator already -/
def MValid : S × (Nat → List Nat) → List MOp → Prop
  | _, [] => True
  | sr, op :: rest =>
    (match op with
      | .map _ bn => bn < NDIRECT + NBLKBLK + NBLKBLK * NBLKBLK
      | .shrink a _ N => N ≤ MAXBLKS ∧ EmptyFrom sr.1.st (sr.2 a) N
      | .recycle L =>
        (∀ x ∈ L, x ≠ 0 → (∀ f p, p.valid → ptr sr.1.st (sr.2 f) p ≠ x) ∧ ∀ i, sr.1.st x i = 0) ∧
        DistinctNZ (sr.1.allocs ++ L)) ∧
    MValid (mapply sr op) rest

theorem mapply_wf (sr : S × (Nat → List Nat)) (op : MOp) (rest : List MOp) (h : MWF sr.1 sr.2)
    (hv : MValid sr (op :: rest)) : MWF (mapply sr op).1 (mapply sr op).2 := by
  cases op with
  | map a bn => exact (mbmap_ok sr.1 sr.2 a bn h hv.1).1
  | shrink a T N => exact (mshrink_ok sr.1 sr.2 a T N h hv.1.1 hv.1.2).1
  | recycle L => exact mrecycle sr.1 sr.2 L h hv.1.1 hv.1.2

theorem mhistory_wf (ops : List MOp) : ∀ (sr : S × (Nat → List Nat)), MWF sr.1 sr.2 → MValid sr ops →
    MWF (ops.foldl mapply sr).1 (ops.foldl mapply sr).2 := by
  induction ops with
  | nil => intro sr h _; exact h
  | cons op rest ih => intro sr h hv; exact ih _ (mapply_wf sr op rest h hv) hv.2

end GoNfsd.Model.BlockMap
