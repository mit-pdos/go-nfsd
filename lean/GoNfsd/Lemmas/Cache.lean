import GoNfsd.Model.Cache

/-! M8c: a slot never comes to stand for another id.  Evicted entries leave the cache, so the invariant speaks of the
    history of all (id, slot) pairs ever handed out: slots come from a counter that only grows. -/
namespace GoNfsd.Model.Cache

/-- the invariant of the cache together with a history `H` of (id, slot) pairs handed out: the entries are among them,
    every slot in it was taken from the counter, and no slot in it stands for two ids -/
structure Inv (c : C) (H : List (Nat × Nat)) : Prop where
  sub : ∀ e ∈ c.entries, e ∈ H
  below : ∀ e ∈ H, e.2 < c.next
  func : ∀ e ∈ H, ∀ e' ∈ H, e.2 = e'.2 → e.1 = e'.1

theorem find_mem (es : List (Nat × Nat)) (id t : Nat) (h : find es id = some t) : (id, t) ∈ es := by
  obtain ⟨e, he, rfl⟩ := Option.map_eq_some_iff.1 h
  have := List.find?_some he
  rw [← eq_of_beq this]
  exact List.mem_of_find?_eq_some he

/-- the three ways a lookup ends: the panic of capacity 0, a hit (the entry moves to the recent end), a fresh slot
    (whichever way room is made) -/
theorem lookupSlot_cases (c : C) (id : Nat) :
    lookupSlot c id = (c, none) ∨
    (∃ t, (id, t) ∈ c.entries ∧
      lookupSlot c id = ({ c with entries := (c.entries.filter fun e => e.1 != id) ++ [(id, t)] }, some t)) ∨
    (∃ es, (∀ e ∈ es, e ∈ c.entries) ∧
      lookupSlot c id = ({ c with entries := es ++ [(id, c.next)], next := c.next + 1 }, some c.next)) := by
  -- a hit; a miss with the cache full and empty (capacity 0), full, not full
  fun_cases lookupSlot c id
  next t hf => exact .inr (.inl ⟨t, find_mem _ _ _ hf, rfl⟩)
  next => exact .inl rfl
  next x rest hes => exact .inr (.inr ⟨rest, fun e he => hes ▸ List.mem_cons_of_mem _ he, rfl⟩)
  next => exact .inr (.inr ⟨c.entries, fun e he => he, rfl⟩)

theorem lookup_inv (c : C) (H : List (Nat × Nat)) (id : Nat) (h : Inv c H) :
    ∃ H', Inv (lookupSlot c id).1 H' ∧ (∀ e ∈ H, e ∈ H') ∧ ∀ t, (lookupSlot c id).2 = some t → (id, t) ∈ H' := by
  rcases lookupSlot_cases c id with hl | ⟨t, ht, hl⟩ | ⟨es, hes, hl⟩ <;> rw [hl]
  · exact ⟨H, h, fun e he => he, nofun⟩
  · refine ⟨H, ⟨fun e he => ?_, h.below, h.func⟩, fun e he => he, fun t' ht' => ?_⟩
    · rcases List.mem_append.1 he with he | he
      · exact h.sub e (List.mem_filter.1 he).1
      · rw [List.mem_singleton.1 he]; exact h.sub _ ht
    · cases ht'; exact h.sub _ ht
  · -- a fresh slot: below the new counter, and above every slot of the history
    refine ⟨(id, c.next) :: H, ⟨fun e he => ?_, fun e he => ?_, fun e he e' he' heq => ?_⟩,
      fun e he => List.mem_cons_of_mem _ he, fun t' ht' => by cases ht'; exact List.mem_cons_self⟩
    · rcases List.mem_append.1 he with he | he
      · exact List.mem_cons_of_mem _ (h.sub e (hes e he))
      · rw [List.mem_singleton.1 he]; exact List.mem_cons_self
    · rcases List.mem_cons.1 he with rfl | he
      · exact Nat.lt_succ_self _
      · exact Nat.lt_succ_of_lt (h.below e he)
    · rcases List.mem_cons.1 he with rfl | h1 <;> rcases List.mem_cons.1 he' with rfl | h2
      · rfl
      · exact absurd heq (Nat.ne_of_gt (h.below e' h2))
      · exact absurd heq (Nat.ne_of_lt (h.below e h1))
      · exact h.func e h1 e' h2 heq

def pairs : List Nat → List (Option Nat) → List (Nat × Nat)
  | id :: ids, some t :: outs => (id, t) :: pairs ids outs
  | _ :: ids, none :: outs => pairs ids outs
  | _, _ => []

theorem run_inv (ids : List Nat) (c : C) (H : List (Nat × Nat)) (h : Inv c H) :
    ∃ H', Inv (run c ids).1 H' ∧ (∀ e ∈ H, e ∈ H') ∧ ∀ e ∈ pairs ids (run c ids).2, e ∈ H' := by
  fun_induction run c ids generalizing H with
  | case1 c => exact ⟨H, h, fun e he => he, nofun⟩
  | case2 c id rest r rr ih =>
    obtain ⟨H1, i1, s1, p1⟩ := lookup_inv c H id h
    obtain ⟨H2, i2, s2, p2⟩ := ih H1 i1
    refine ⟨H2, i2, fun e he => s2 e (s1 e he), ?_⟩
    cases ho : (lookupSlot c id).2 with
    | none => exact p2
    | some t =>
      intro e he
      rcases List.mem_cons.1 he with rfl | he
      · exact s2 _ (p1 t ho)
      · exact p2 e he

end GoNfsd.Model.Cache
