/- WRITE and READ of the reference model M6 as equations (WRITE with its four refusals as one guard), and that a READ of
   the range just written returns the data. -/
import GoNfsd.Lemmas.FsStep

namespace GoNfsd.Model.Fs
open GoNfsd.Gen.Consts

theorem step_write (s : FS) (c : Choice) (fh : Bytes) (off count stable : Nat) (data : Array UInt8) :
    step s (.write fh off count stable data) c =
      match resolve s fh with
      | none => (s, .fail .stale)
      | some i =>
        if (s.get i).kind = NF3REG ∧ count ≤ s.wtmax ∧ count ≤ data.size ∧ off + count ≤ MaxFileSize then
          if count = 0 then (s, .written 0 (if s.unstable then stable else FILE_SYNC) (s.get i).size)
          else (s.set i { s.get i with content := .write off (data.extract 0 count) :: (s.get i).content,
                                       size := max (s.get i).size (off + count) },
                .written count (if s.unstable then stable else FILE_SYNC) (max (s.get i).size (off + count)))
        else (s, .fail .err) := by
  unfold step
  simp only [maxWrite]
  cases resolve s fh with
  | none => rfl
  | some i =>
    dsimp only
    by_cases hk : (s.get i).kind = NF3REG
    · by_cases h1 : count > s.wtmax
      · rw [if_neg (not_not_intro hk), if_pos h1, if_neg fun h => Nat.not_lt.mpr h.2.1 h1]
      · by_cases h2 : count > data.size
        · rw [if_neg (not_not_intro hk), if_neg h1, if_pos h2, if_neg fun h => Nat.not_lt.mpr h.2.2.1 h2]
        · by_cases h3 : count > MaxFileSize ∨ off > MaxFileSize - count
          · rw [if_neg (not_not_intro hk), if_neg h1, if_neg h2, if_pos h3, if_neg fun h => by omega]
          · have hg : (s.get i).kind = NF3REG ∧ count ≤ s.wtmax ∧ count ≤ data.size ∧ off + count ≤ MaxFileSize :=
              ⟨hk, Nat.not_lt.mp h1, Nat.not_lt.mp h2, by omega⟩
            rw [if_neg (not_not_intro hk), if_neg h1, if_neg h2, if_neg h3, if_pos hg]
    · rw [if_pos hk, if_neg fun h => hk h.1]

theorem step_write_written (s : FS) (c : Choice) (fh : Bytes) (off count stable : Nat) (data : Array UInt8)
    (n cm sz : Nat) (h : (step s (.write fh off count stable data) c).2 = .written n cm sz) :
    ∃ i, resolve s fh = some i ∧ (s.get i).kind = NF3REG ∧ count ≤ s.wtmax ∧ count ≤ data.size ∧
      off + count ≤ MaxFileSize ∧ n = count ∧ cm = (if s.unstable then stable else FILE_SYNC) := by
  rw [step_write] at h
  cases hr : resolve s fh with
  | none => rw [hr] at h; cases h
  | some i =>
    rw [hr] at h
    dsimp only at h
    by_cases hg : (s.get i).kind = NF3REG ∧ count ≤ s.wtmax ∧ count ≤ data.size ∧ off + count ≤ MaxFileSize
    · rw [if_pos hg] at h
      refine ⟨i, rfl, hg.1, hg.2.1, hg.2.2.1, hg.2.2.2, ?_⟩
      by_cases h0 : count = 0
      · rw [if_pos h0] at h; cases h; exact ⟨h0.symm, rfl⟩
      · rw [if_neg h0] at h; cases h; exact ⟨rfl, rfl⟩
    · rw [if_neg hg] at h; cases h

theorem step_read_eq (s : FS) (c : Choice) (fh : Bytes) (off count : Nat) (i : Nat)
    (hr : resolve s fh = some i) (hk : (s.get i).kind = NF3REG) (hlt : off < (s.get i).size) :
    step s (.read fh off count) c =
      (s, .data (if off + min count s.wtmax ≥ (s.get i).size then (s.get i).size - off else min count s.wtmax) false
        (readBytes (s.get i).content off
          (if off + min count s.wtmax ≥ (s.get i).size then (s.get i).size - off else min count s.wtmax))) := by
  unfold step
  simp only [hr]
  rw [if_neg (fun h => h hk), if_neg (Nat.not_le.mpr hlt)]

theorem read_after_write (s : FS) (c c' : Choice) (fh : Bytes) (off count stable : Nat) (data : Array UInt8)
    (n cm sz : Nat) (hpos : 0 < count) (h : (step s (.write fh off count stable data) c).2 = .written n cm sz) :
    step (step s (.write fh off count stable data) c).1 (.read fh off count) c' =
      ((step s (.write fh off count stable data) c).1, .data count false (data.extract 0 count).toList) := by
  obtain ⟨i, hr, hk, h1, h2, h3, _⟩ := step_write_written s c fh off count stable data n cm sz h
  rw [step_write, hr]
  dsimp only
  rw [if_pos ⟨hk, h1, h2, h3⟩, if_neg (Nat.ne_of_gt hpos)]
  have hsz : (data.extract 0 count).size = count := by
    rw [Array.size_extract, Nat.min_eq_left h2, Nat.sub_zero]
  generalize hx : ({ s.get i with content := .write off (data.extract 0 count) :: (s.get i).content,
                                  size := max (s.get i).size (off + count) } : Inode) = x
  have hxk : x.kind = (s.get i).kind := by rw [← hx]
  have hxs : x.size = max (s.get i).size (off + count) := by rw [← hx]
  have hxc : x.content = .write off (data.extract 0 count) :: (s.get i).content := by rw [← hx]
  have hle : off + count ≤ max (s.get i).size (off + count) := Nat.le_max_right _ _
  rw [step_read_eq _ c' fh off count i ((resolve_set s fh i x hxk (by rw [← hx])).trans hr)
    (by rw [get_set_same, hxk]; exact hk)
    (by rw [get_set_same, hxs]; exact Nat.lt_of_lt_of_le (Nat.lt_add_of_pos_right hpos) hle)]
  -- the READ is not cut short: the range lies inside the file and within the transfer limit
  have hn : (if off + min count s.wtmax ≥ max (s.get i).size (off + count)
      then max (s.get i).size (off + count) - off else min count s.wtmax) = count := by
    rw [Nat.min_eq_left h1]
    split
    · rw [Nat.le_antisymm ‹_› hle, Nat.add_sub_cancel_left]
    · rfl
  have := readBytes_write (s.get i).content off (data.extract 0 count)
  rw [hsz] at this
  rw [get_set_same, set_wtmax, hxs, hn, hxc, this]

end GoNfsd.Model.Fs
