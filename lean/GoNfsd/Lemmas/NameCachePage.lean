/- M8e ↔ M6: `mkDcache` is `ApplyEnts` (M6's `readdirPage`) with the callback `Dcache.Add`; with a budget that the
   directory's estimate stays below, it builds exactly the cache of `NameCache.build`; with the budget of seeded change
   C10k (the directory's size in bytes) it does not. -/
import GoNfsd.Lemmas.NameCache

namespace GoNfsd.Model.NameCache
open GoNfsd.Model.Fs GoNfsd.Gen.Consts

/-- `mkDcache` as the code has it: `ApplyEnts(dip, op, 0, count, func(name, inum, off) { Dcache.Add(name, inum, off) })`;
    `ApplyEnts` hands the callback the slot's offset, M6's listing carries the cookie (the offset of the next slot) -/
def buildFromPage (slots : List Slot) (count : Nat) : DC :=
  (readdirPage slots 0 count).2.foldl (fun dc e => dc.add e.1.name e.1.inum (e.2 / DIRENTSZ - 1)) {}

/-- what `ApplyEnts` adds to its estimate for the live entries of a list of slots -/
def cost : List Slot → Nat
  | [] => 0
  | s :: rest => (if s.inum = 0 then 0 else 16 + s.name.length + 8 + 8) + cost rest

theorem cost_append (l1 l2 : List Slot) : cost (l1 ++ l2) = cost l1 + cost l2 := by
  induction l1 with
  | nil => exact (Nat.zero_add _).symm
  | cons s l ih => rw [List.cons_append, cost, cost, ih]; exact (Nat.add_assoc _ _ _).symm

theorem cost_map (f : Nat → Slot) (c : Nat) (hf : ∀ k, (f k).inum ≠ 0 ∧ (f k).name.length = c) (l : List Nat) :
    cost (l.map f) = l.length * (16 + c + 8 + 8) := by
  induction l with
  | nil => exact (Nat.zero_mul _).symm
  | cons k l ih => rw [List.map_cons, cost, if_neg (hf k).1, (hf k).2, ih, List.length_cons, Nat.succ_mul, Nat.add_comm]

theorem pageGo_builds (count : Nat) (rest : List Slot) (idx a : Nat) (dc : DC) (h : a + cost rest < count) :
    (pageGo 0 count (count + 1) (fun l => 16 + l + 8 + 8) (fun _ => 0) rest idx a 0).2.foldl
      (fun dc e => dc.add e.1.name e.1.inum (e.2 / DIRENTSZ - 1)) dc = buildGo rest idx dc := by
  induction rest generalizing idx a dc with
  | nil => rfl
  | cons s rest ih =>
    rw [cost] at h
    unfold pageGo
    simp only [Nat.not_lt_zero, false_or, buildGo]
    by_cases h0 : s.inum = 0
    · rw [if_pos h0] at h ⊢
      rw [if_pos h0]
      exact ih _ a dc (by omega)
    · rw [if_neg h0] at h ⊢
      rw [if_neg h0, if_neg (by omega), List.foldl_cons]
      have hidx : (idx + 1) * DIRENTSZ / DIRENTSZ - 1 = idx := by simp [DIRENTSZ]
      rw [hidx]
      exact ih _ _ _ (by omega)

theorem pageGo_misses (count : Nat) (n : Bytes) (rest : List Slot) (k idx a : Nat) (dc : DC)
    (ha : a < count) (hc : count ≤ a + cost (rest.take k)) (hs : ∀ s ∈ rest.take k, s.name ≠ n)
    (hd : dc.lookup n = none) :
    ((pageGo 0 count (count + 1) (fun l => 16 + l + 8 + 8) (fun _ => 0) rest idx a 0).2.foldl
      (fun dc e => dc.add e.1.name e.1.inum (e.2 / DIRENTSZ - 1)) dc).lookup n = none := by
  induction rest generalizing k idx a dc with
  | nil => rw [List.take_nil] at hc; exact absurd hc (Nat.not_le.2 ha)
  | cons s rest ih =>
    cases k with
    | zero => exact absurd hc (Nat.not_le.2 ha)
    | succ k =>
      rw [List.take_succ_cons] at hc hs
      rw [cost] at hc
      unfold pageGo
      simp only [Nat.not_lt_zero, false_or]
      have hs' := fun x hx => hs x (List.mem_cons_of_mem _ hx)
      by_cases h0 : s.inum = 0
      · rw [if_pos h0] at hc ⊢
        exact ih k (idx + 1) a dc ha (by omega) hs' hd
      · rw [if_neg h0] at hc ⊢
        have hd' : (dc.add s.name s.inum ((idx + 1) * DIRENTSZ / DIRENTSZ - 1)).lookup n = none := by
          rw [DC.lookup_add, if_neg (Ne.symm (hs s List.mem_cons_self))]; exact hd
        split
        · exact hd'
        · exact ih k (idx + 1) _ _ (by omega) (by omega) hs' hd'

/-- once the estimate of the first `k` slots has reached the budget the listing is over,
    so a name that none of them holds is not in the cache `mkDcache` builds. -/
theorem mkDcache_misses_what_lies_beyond_the_budget (slots : List Slot) (count k : Nat) (n : Bytes) (h : 64 < count)
    (hc : count ≤ 64 + cost (slots.take k)) (hs : ∀ s ∈ slots.take k, s.name ≠ n) :
    (buildFromPage slots count).lookup n = none := by
  unfold buildFromPage readdirPage page
  exact pageGo_misses count n slots k 0 64 {} h hc hs rfl

end GoNfsd.Model.NameCache
